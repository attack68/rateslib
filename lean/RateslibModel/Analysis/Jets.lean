/-
Expressions over the operators of C01, their plain real evaluation, and scalar jets (value,
derivative) computed with exactly the formulas the dual-number code uses.  `jet_sound`: the jet of
an expression is its true value and true derivative wherever the expression is differentiable.
-/
import RateslibModel.Analysis.RealInst
import Mathlib.Analysis.Calculus.Deriv.Abs
namespace Rateslib
open Real

theorem hasDerivAt_line (r d : ℝ) : HasDerivAt (fun t : ℝ => r + t * d) d 0 :=
  (hasDerivAt_mul_const d).const_add r

inductive Expr where
  | leaf (i : Nat)
  | const (c : ℝ)
  | add (a b : Expr)
  | sub (a b : Expr)
  | mul (a b : Expr)
  | div (a b : Expr)
  | neg (a : Expr)
  | powc (a : Expr) (p : ℝ)
  | exp (a : Expr)
  | log (a : Expr)
  | ncdf (a : Expr)
  | nicdf (a : Expr)
  | abs (a : Expr)

namespace Expr

/-- plain evaluation on real numbers -/
noncomputable def evalR : Expr → (Nat → ℝ) → ℝ
  | leaf i, v => v i
  | const c, _ => c
  | add a b, v => evalR a v + evalR b v
  | sub a b, v => evalR a v - evalR b v
  | mul a b, v => evalR a v * evalR b v
  | div a b, v => evalR a v / evalR b v
  | neg a, v => -evalR a v
  | powc a p, v => evalR a v ^ p
  | exp a, v => Real.exp (evalR a v)
  | log a, v => Real.log (evalR a v)
  | ncdf a, v => Phi (evalR a v)
  | nicdf a, v => PhiInv (evalR a v)
  | abs a, v => |evalR a v|

/-- the points at which the expression is differentiable (and its f64 evaluation meaningful) -/
def Dom : Expr → (Nat → ℝ) → Prop
  | leaf _, _ => True
  | const _, _ => True
  | add a b, v => Dom a v ∧ Dom b v
  | sub a b, v => Dom a v ∧ Dom b v
  | mul a b, v => Dom a v ∧ Dom b v
  | div a b, v => Dom a v ∧ Dom b v ∧ evalR b v ≠ 0
  | neg a, v => Dom a v
  | powc a p, v => Dom a v ∧ (evalR a v ≠ 0 ∨ 1 ≤ p ∨ p = 0)
  | exp a, v => Dom a v
  | log a, v => Dom a v ∧ 0 < evalR a v
  | ncdf a, v => Dom a v
  | nicdf a, v => Dom a v ∧ evalR a v ∈ Set.range Phi
  | abs a, v => Dom a v ∧ evalR a v ≠ 0

/-- scalar jets with the code's formulas (cf. Model/Dual.lean: mul, div, pow, exp, log, normCdf,
invNormCdf, abs) -/
noncomputable def evalJ : Expr → (Nat → ℝ × ℝ) → ℝ × ℝ
  | leaf i, v => v i
  | const c, _ => (c, 0)
  | add a b, v => ((evalJ a v).1 + (evalJ b v).1, (evalJ a v).2 + (evalJ b v).2)
  | sub a b, v => ((evalJ a v).1 - (evalJ b v).1, (evalJ a v).2 - (evalJ b v).2)
  | mul a b, v => ((evalJ a v).1 * (evalJ b v).1,
                   (evalJ a v).2 * (evalJ b v).1 + (evalJ b v).2 * (evalJ a v).1)
  | div a b, v =>
    let a0 := (evalJ a v).1; let a1 := (evalJ a v).2
    let b0 := (evalJ b v).1; let b1 := (evalJ b v).2
    (a0 * (1 / b0), a1 * (1 / b0) + ((-1 / (b0 * b0)) * b1) * a0)
  | neg a, v => (-(evalJ a v).1, -(evalJ a v).2)
  | powc a p, v => ((evalJ a v).1 ^ p, (evalJ a v).2 * p * (evalJ a v).1 ^ (p - 1))
  | exp a, v => (Real.exp (evalJ a v).1, Real.exp (evalJ a v).1 * (evalJ a v).2)
  | log a, v => (Real.log (evalJ a v).1, (1 / (evalJ a v).1) * (evalJ a v).2)
  | ncdf a, v => (Phi (evalJ a v).1, phi (evalJ a v).1 * (evalJ a v).2)
  | nicdf a, v =>
    let base := PhiInv (evalJ a v).1
    (base, (Real.sqrt (2 * π) * Real.exp (1 / 2 * base ^ (2 : ℝ))) * (evalJ a v).2)
  | abs a, v => if 0 < (evalJ a v).1 then evalJ a v else (-(evalJ a v).1, -1 * (evalJ a v).2)

theorem inv_phi (x : ℝ) : Real.sqrt (2 * π) * Real.exp (1 / 2 * x ^ (2 : ℝ)) = 1 / phi x := by
  unfold phi
  have hs : Real.sqrt (2 * π) ≠ 0 := (Real.sqrt_pos.2 (by positivity)).ne'
  have he : Real.exp (-(1 / 2) * x ^ (2 : ℝ)) ≠ 0 := (Real.exp_pos _).ne'
  rw [show (1 / 2 * x ^ (2 : ℝ)) = -(-(1 / 2) * x ^ (2 : ℝ)) by ring, Real.exp_neg]
  field_simp

theorem jet_sound (e : Expr) (u : Nat → ℝ → ℝ) (u' : Nat → ℝ) (t₀ : ℝ)
    (hu : ∀ i, HasDerivAt (u i) (u' i) t₀) (hd : Dom e (fun i => u i t₀)) :
    (evalJ e (fun i => (u i t₀, u' i))).1 = evalR e (fun i => u i t₀) ∧
    HasDerivAt (fun t => evalR e (fun i => u i t)) (evalJ e (fun i => (u i t₀, u' i))).2 t₀ := by
  induction e with
  | leaf i => exact ⟨rfl, hu i⟩
  | const c => exact ⟨rfl, hasDerivAt_const t₀ c⟩
  | add a b iha ihb =>
    obtain ⟨ha0, ha1⟩ := iha hd.1; obtain ⟨hb0, hb1⟩ := ihb hd.2
    exact ⟨by simp only [evalJ, evalR, ha0, hb0], ha1.add hb1⟩
  | sub a b iha ihb =>
    obtain ⟨ha0, ha1⟩ := iha hd.1; obtain ⟨hb0, hb1⟩ := ihb hd.2
    exact ⟨by simp only [evalJ, evalR, ha0, hb0], ha1.sub hb1⟩
  | mul a b iha ihb =>
    obtain ⟨ha0, ha1⟩ := iha hd.1; obtain ⟨hb0, hb1⟩ := ihb hd.2
    refine ⟨by simp only [evalJ, evalR, ha0, hb0], ?_⟩
    exact (ha1.mul hb1).congr_deriv (by simp only [evalJ]; rw [ha0, hb0]; ring)
  | div a b iha ihb =>
    obtain ⟨ha0, ha1⟩ := iha hd.1; obtain ⟨hb0, hb1⟩ := ihb hd.2.1
    have hb : evalR b (fun i => u i t₀) ≠ 0 := hd.2.2
    refine ⟨by simp only [evalJ, evalR, ha0, hb0]; ring, ?_⟩
    exact (ha1.div hb1 hb).congr_deriv (by simp only [evalJ]; rw [ha0, hb0]; field_simp; ring)
  | neg a iha =>
    obtain ⟨ha0, ha1⟩ := iha hd
    exact ⟨by simp only [evalJ, evalR, ha0], ha1.neg⟩
  | powc a p iha =>
    obtain ⟨ha0, ha1⟩ := iha hd.1
    refine ⟨by simp only [evalJ, evalR, ha0], ?_⟩
    rcases hd.2 with h | h | h
    · exact (ha1.rpow_const (Or.inl h)).congr_deriv (by simp only [evalJ]; rw [ha0])
    · exact (ha1.rpow_const (Or.inr h)).congr_deriv (by simp only [evalJ]; rw [ha0])
    · -- x^0 is the constant 1 (also at 0): derivative 0 = a1 · 0 · x^(−1)
      subst h
      have hc : (fun t => evalR (powc a 0) fun i => u i t) = fun _ => (1 : ℝ) := by
        funext t; simp only [evalR, Real.rpow_zero]
      rw [hc]
      exact (hasDerivAt_const t₀ (1 : ℝ)).congr_deriv (by simp only [evalJ]; ring)
  | exp a iha =>
    obtain ⟨ha0, ha1⟩ := iha hd
    refine ⟨by simp only [evalJ, evalR, ha0], ?_⟩
    exact ha1.exp.congr_deriv (by simp only [evalJ]; rw [ha0])
  | log a iha =>
    obtain ⟨ha0, ha1⟩ := iha hd.1
    refine ⟨by simp only [evalJ, evalR, ha0], ?_⟩
    exact (ha1.log hd.2.ne').congr_deriv (by simp only [evalJ]; rw [ha0]; ring)
  | ncdf a iha =>
    obtain ⟨ha0, ha1⟩ := iha hd
    refine ⟨by simp only [evalJ, evalR, ha0], ?_⟩
    have := (Phi_hasDerivAt (evalR a fun i => u i t₀)).comp t₀ ha1
    exact this.congr_deriv (by simp only [evalJ]; rw [ha0])
  | nicdf a iha =>
    obtain ⟨ha0, ha1⟩ := iha hd.1
    refine ⟨by simp only [evalJ, evalR, ha0], ?_⟩
    have := (PhiInv_hasDerivAt (evalR a fun i => u i t₀) hd.2).comp t₀ ha1
    exact this.congr_deriv (by simp only [evalJ]; rw [ha0, inv_phi])
  | abs a iha =>
    obtain ⟨ha0, ha1⟩ := iha hd.1
    simp only [evalJ, evalR, ha0]
    rcases lt_or_gt_of_ne (hd.2 : evalR a (fun i => u i t₀) ≠ 0) with hneg | hpos
    · rw [if_neg hneg.not_gt, abs_of_neg hneg]
      refine ⟨rfl, ?_⟩
      exact (hasDerivAt_abs_neg hneg).comp t₀ ha1
    · rw [if_pos hpos, abs_of_pos hpos]
      refine ⟨ha0, ?_⟩
      exact ((hasDerivAt_abs_pos hpos).comp t₀ ha1).congr_deriv (one_mul _)

end Expr
end Rateslib
