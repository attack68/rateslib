/-
The scalar type ℝ as an instance of the model's `Transc` class (noncomputable; used only in proofs),
with the standard normal cdf Φ and an inverse, and what the instance's operations and the model's scalar
helpers are in Mathlib's terms.
-/
import RateslibModel.Model.Dual
import Mathlib.Analysis.SpecialFunctions.Pow.Deriv
import Mathlib.MeasureTheory.Integral.IntervalIntegral.FundThmCalculus
import Mathlib.Analysis.Calculus.InverseFunctionTheorem.Deriv
import Mathlib.Analysis.Calculus.Deriv.MeanValue
namespace Rateslib
open Real

/-- standard normal density -/
noncomputable def phi (x : ℝ) : ℝ := 1 / Real.sqrt (2 * π) * Real.exp (-(1 / 2) * x ^ (2 : ℝ))

/-- standard normal cdf, normalised by Φ(0) = 1/2 -/
noncomputable def Phi (x : ℝ) : ℝ := 1 / 2 + ∫ t in (0 : ℝ)..x, phi t

theorem phi_pos (x : ℝ) : 0 < phi x := by
  unfold phi
  have : 0 < Real.sqrt (2 * π) := Real.sqrt_pos.2 (by positivity)
  positivity

theorem phi_cont : Continuous phi := by
  unfold phi
  simp only [Real.rpow_two]
  fun_prop

theorem Phi_hasStrictDerivAt (x : ℝ) : HasStrictDerivAt Phi (phi x) x := by
  unfold Phi
  exact (phi_cont.integral_hasStrictDerivAt 0 x).const_add (1 / 2)

theorem Phi_hasDerivAt (x : ℝ) : HasDerivAt Phi (phi x) x := (Phi_hasStrictDerivAt x).hasDerivAt

theorem Phi_strictMono : StrictMono Phi := by
  apply strictMono_of_deriv_pos
  intro x
  rw [(Phi_hasDerivAt x).deriv]
  exact phi_pos x

/-- an inverse of Φ on its range -/
noncomputable def PhiInv : ℝ → ℝ := Function.invFun Phi

theorem PhiInv_Phi (x : ℝ) : PhiInv (Phi x) = x :=
  Function.leftInverse_invFun Phi_strictMono.injective x

theorem PhiInv_hasDerivAt (p : ℝ) (hp : p ∈ Set.range Phi) :
    HasDerivAt PhiInv (1 / phi (PhiInv p)) p := by
  obtain ⟨x, rfl⟩ := hp
  rw [PhiInv_Phi]
  have h := (Phi_hasStrictDerivAt x).to_local_left_inverse (phi_pos x).ne'
    (Filter.Eventually.of_forall PhiInv_Phi)
  simpa [one_div] using h.hasDerivAt

noncomputable instance : Transc ℝ where
  exp := Real.exp
  ln := Real.log
  powf := fun x p => x ^ p
  sqrt := Real.sqrt
  pi := π
  ncdf := Phi
  nicdf := PhiInv
  trunc := fun x => if 0 ≤ x then (⌊x⌋ : ℝ) else (⌈x⌉ : ℝ)
  fmod := fun a b => a - (if 0 ≤ a / b then (⌊a / b⌋ : ℝ) else (⌈a / b⌉ : ℝ)) * b
  signum := fun x => if 0 ≤ x then 1 else -1
  ltb := fun a b => decide (a < b)
  leb := fun a b => decide (a ≤ b)
  eqb := fun a b => decide (a = b)
  ofInt := fun n => (n : ℝ)

theorem powf_real (x p : ℝ) : Transc.powf x p = x ^ p := rfl

/-- over ℝ the guarded power of the repaired `pow` is the plain power as soon as it is multiplied by its
coefficient (`0 · x^e = 0`) -/
theorem coeffPow_real (c x e : ℝ) : c * Dual.coeffPow c x e = c * x ^ e := by
  unfold Dual.coeffPow
  by_cases h : c = 0
  · subst h
    simp
  · have : Transc.eqb c (0 : ℝ) = false := by
      show decide (c = 0) = false
      simp [h]
    rw [this]
    rfl

theorem exp_real (x : ℝ) : Transc.exp x = Real.exp x := rfl
theorem ln_real (x : ℝ) : Transc.ln x = Real.log x := rfl
theorem ncdf_real (x : ℝ) : Transc.ncdf x = Phi x := rfl
theorem nicdf_real (x : ℝ) : Transc.nicdf x = PhiInv x := rfl
theorem ltb_real (x y : ℝ) : Transc.ltb x y = decide (x < y) := rfl
theorem ltb_iff (a b : ℝ) : Transc.ltb a b = true ↔ a < b := decide_eq_true_iff
theorem leb_iff (a b : ℝ) : Transc.leb a b = true ↔ a ≤ b := decide_eq_true_iff
theorem eqb_iff (a b : ℝ) : Transc.eqb a b = true ↔ a = b := decide_eq_true_iff
theorem ofInt_real (n : Nat) : (Transc.ofInt ((n : Nat) : Int) : ℝ) = (n : ℝ) := Int.cast_natCast n

theorem normPdf_real (x : ℝ) : Dual.normPdf x = phi x := by
  simp only [Dual.normPdf, phi, half]
  rfl

theorem invPdf_real (x : ℝ) : Dual.invPdf x = Real.sqrt (2 * π) * Real.exp (1 / 2 * x ^ (2 : ℝ)) := by
  simp only [Dual.invPdf, half]
  rfl

end Rateslib
