/-
Second-order refinement.  `ChainSpec a r f0 c1 c2`: `r` is `a` under a unary chain rule with first-order factor
`c1` and outer-product factor `c2`; one specification of that shape per unary operation of `Dual2`, all read off
the normal form (`chainSpec_of_ofFun`).  `dirJet α β v w` (the scalar 2-jet along a direction in the plane of two
variable names) commutes with every operation, hence (`evalD2_refines`) evaluating an expression on list-level
second-order numbers over ℝ yields exactly the scalar 2-jet of the expression.
-/
import RateslibModel.Analysis.Jets2Sound
import RateslibModel.Proofs.Dual2Layout
namespace Rateslib

/-- the generic chain-rule shape shared by exp, log, Φ, Φ⁻¹, pow: first order scaled by `c1`, second
order `c1 · H + c2 · ggᵀ` -/
structure ChainSpec (a r : Dual2 ℝ) (f0 c1 c2 : ℝ) : Prop where
  wf : r.WF
  vars : r.vars = a.vars
  real : r.real = f0
  den : ∀ n, Dual2.den r n = c1 * Dual2.den a n
  den2 : ∀ n w, Dual2.den2 r n w = c1 * Dual2.den2 a n w + c2 * (Dual2.den a n * Dual2.den a w)

/-- the one place where the shape of a chain-rule result, and its entries off the variable list, are dealt
with: a result in normal form on the operand's list with the generic entries -/
theorem chainSpec_of_ofFun {a r : Dual2 ℝ} {f0 c1 c2 : ℝ} (ha : a.WF)
    (h : r = Dual2.ofFun f0 a.vars (fun n => c1 * Dual2.den a n)
      (fun n w => c1 * Dual2.den2 a n w + c2 * (Dual2.den a n * Dual2.den a w))) :
    ChainSpec a r f0 c1 c2 := by
  subst h
  refine ⟨Dual2.ofFun_wf _ _ _ _ ha.1, rfl, rfl, Dual2.den_ofFun_off fun n hn => ?_,
    Dual2.den2_ofFun_off fun n w hn => ?_⟩
  · rw [Dual2.den_not_mem a n hn, mul_zero]
  · rw [Dual2.den2_not_mem a n w hn, Dual2.den_mul_den_off (fun _ => id) (fun _ => id) hn, mul_zero,
      mul_zero, add_zero]

theorem Dual2.exp_spec (a : Dual2 ℝ) (ha : a.WF) :
    ChainSpec a (Dual2.exp a) (Real.exp a.real) (Real.exp a.real) (Real.exp a.real * (1 / 2)) := by
  apply chainSpec_of_ofFun ha
  simp only [Dual2.exp, Dual2.dual_eq_map_den a ha, Dual2.dual2_eq_map_den2 a ha, vscaleL_map, outer_map,
    mscaleL_map, madd_map]
  exact Dual2.ofFun_congr _ _ (fun _ => rfl) (fun n w => by simp only [half, exp_real]; ring)

theorem Dual2.log_spec (a : Dual2 ℝ) (ha : a.WF) :
    ChainSpec a (Dual2.log a) (Real.log a.real) (1 / a.real) (-(1 / 2) * (1 / a.real * (1 / a.real))) := by
  apply chainSpec_of_ofFun ha
  simp only [Dual2.log, Dual2.dual_eq_map_den a ha, Dual2.dual2_eq_map_den2 a ha, vscaleL_map, outer_map,
    mscaleL_map, mscaleR_map, msub_map]
  exact Dual2.ofFun_congr _ _ (fun _ => rfl) (fun n w => by simp only [half]; ring)

/-- the shape `madd (mscaleL c1 H) (mscaleL c2 O)` in which Φ, Φ⁻¹, `f64 / Dual2` and the B-spline evaluations at a
second-order abscissa compute their chain rule -/
theorem Dual2.chain_shape_spec (a : Dual2 ℝ) (ha : a.WF) (f0 c1 c2 : ℝ) :
    ChainSpec a ⟨f0, a.vars, vscaleL c1 a.dual,
      madd (mscaleL c1 a.dual2) (mscaleL c2 (outer a.dual a.dual))⟩ f0 c1 c2 := by
  apply chainSpec_of_ofFun ha
  simp only [Dual2.dual_eq_map_den a ha, Dual2.dual2_eq_map_den2 a ha, vscaleL_map, outer_map, mscaleL_map,
    madd_map]
  rfl

theorem Dual2.pow_spec (a : Dual2 ℝ) (ha : a.WF) (p : ℝ) :
    ChainSpec a (Dual2.pow a p) (a.real ^ p) (p * a.real ^ (p - 1))
      (1 / 2 * p * (p - 1) * a.real ^ (p - 2)) := by
  apply chainSpec_of_ofFun ha
  -- over ℝ the repaired (guarded) coefficients are the plain ones
  simp only [Dual2.pow, Dual2.dual_eq_map_den a ha, Dual2.dual2_eq_map_den2 a ha, vscaleR_map, outer_map,
    mscaleR_map, madd_map, coeffPow_real, powf_real]
  exact Dual2.ofFun_congr _ _ (fun _ => mul_comm _ _) (fun n w => by simp only [half]; ring)

/-- the arrays of `-x` and of `f64 - x` -/
theorem Dual2.neg_shape_spec (a : Dual2 ℝ) (ha : a.WF) (f0 : ℝ) :
    ChainSpec a ⟨f0, a.vars, vneg a.dual, mneg a.dual2⟩ f0 (-1) 0 := by
  apply chainSpec_of_ofFun ha
  simp only [Dual2.dual_eq_map_den a ha, Dual2.dual2_eq_map_den2 a ha, vneg_map, mneg_map]
  exact Dual2.ofFun_congr _ _ (fun _ => by ring) (fun n w => by ring)

theorem Dual2.neg_spec (a : Dual2 ℝ) (ha : a.WF) : ChainSpec a (Dual2.neg a) (-a.real) (-1) 0 :=
  Dual2.neg_shape_spec a ha _

theorem Dual2.scaleL_spec (a : Dual2 ℝ) (ha : a.WF) (f0 c : ℝ) :
    ChainSpec a ⟨f0, a.vars, vscaleL c a.dual, mscaleL c a.dual2⟩ f0 c 0 := by
  apply chainSpec_of_ofFun ha
  simp only [Dual2.dual_eq_map_den a ha, Dual2.dual2_eq_map_den2 a ha, vscaleL_map, mscaleL_map]
  exact Dual2.ofFun_congr _ _ (fun _ => rfl) (fun n w => by ring)

theorem Dual2.normCdf_spec (a : Dual2 ℝ) (ha : a.WF) :
    ChainSpec a (Dual2.normCdf a) (Phi a.real) (phi a.real) (1 / 2 * (phi a.real * -a.real)) := by
  have S := Dual2.chain_shape_spec a ha (Phi a.real) (phi a.real) (1 / 2 * (phi a.real * -a.real))
  simpa only [Dual2.normCdf, ncdf_real, normPdf_real, half] using S

theorem Dual2.invNormCdf_spec (a : Dual2 ℝ) (ha : a.WF) :
    ChainSpec a (Dual2.invNormCdf a) (PhiInv a.real) (Dual.invPdf (PhiInv a.real))
      (1 / 2 * (Dual.invPdf (PhiInv a.real) ^ (2 : ℝ) * PhiInv a.real)) :=
  Dual2.chain_shape_spec a ha _ _ _

theorem Dual2.abs_spec (a : Dual2 ℝ) (ha : a.WF) :
    ChainSpec a (Dual2.abs a) |a.real| (if 0 < a.real then 1 else -1) 0 := by
  unfold Dual2.abs
  rw [ltb_real]
  by_cases h : 0 < a.real
  · rw [if_pos (decide_eq_true h), if_pos h, abs_of_pos h]
    exact ⟨ha, rfl, rfl, fun n => (one_mul _).symm, fun n w => by ring⟩
  · rw [if_neg (by simpa using h), if_neg h, abs_of_nonpos (not_lt.1 h)]
    exact Dual2.scaleL_spec a ha _ _

theorem Dual2.new_const_spec (c : ℝ) :
    (Dual2.new c []).WF ∧ (Dual2.new c []).real = c ∧ (∀ n, Dual2.den (Dual2.new c []) n = 0) ∧
    (∀ n w, Dual2.den2 (Dual2.new c []) n w = 0) :=
  ⟨Dual2.new_wf c [], rfl, fun n => (Dual2.den_new c [] n).trans (if_neg List.not_mem_nil),
    Dual2.den2_new c []⟩

theorem J2.ext' {a b : J2} (h0 : a.v0 = b.v0) (h1 : a.v1 = b.v1) (h2 : a.v2 = b.v2) : a = b := by
  cases a; cases b; simp_all

namespace Expr

/-- evaluation on the model's SECOND-order dual numbers, constants promoted to variable-free numbers -/
noncomputable def evalD2 : Expr → (Nat → Dual2 ℝ) → Dual2 ℝ
  | leaf i, env => env i
  | const c, _ => Dual2.new c []
  | add a b, env => Dual2.add false (evalD2 a env) (evalD2 b env)
  | sub a b, env => Dual2.sub false (evalD2 a env) (evalD2 b env)
  | mul a b, env => Dual2.mul false (evalD2 a env) (evalD2 b env)
  | div a b, env => Dual2.div false (evalD2 a env) (evalD2 b env)
  | neg a, env => Dual2.neg (evalD2 a env)
  | powc a p, env => Dual2.pow (evalD2 a env) p
  | exp a, env => Dual2.exp (evalD2 a env)
  | log a, env => Dual2.log (evalD2 a env)
  | ncdf a, env => Dual2.normCdf (evalD2 a env)
  | nicdf a, env => Dual2.invNormCdf (evalD2 a env)
  | abs a, env => Dual2.abs (evalD2 a env)

/-- the scalar 2-jet of a second-order number along the direction `α·e_v + β·e_w`: value, directional
first derivative, HALF directional second derivative `Σ uₙ u_m · den2 n m` -/
noncomputable def dirJet (α β : ℝ) (v w : String) (d : Dual2 ℝ) : J2 :=
  ⟨d.real, α * Dual2.den d v + β * Dual2.den d w,
   α * α * Dual2.den2 d v v + α * β * (Dual2.den2 d v w + Dual2.den2 d w v)
     + β * β * Dual2.den2 d w w⟩

theorem chain_dirJet {a r : Dual2 ℝ} {f0 c1 c2 : ℝ} (S : ChainSpec a r f0 c1 c2)
    (α β : ℝ) (v w : String) :
    dirJet α β v w r = ⟨f0, c1 * (dirJet α β v w a).v1,
      c1 * (dirJet α β v w a).v2 + c2 * ((dirJet α β v w a).v1 * (dirJet α β v w a).v1)⟩ := by
  apply J2.ext'
  · exact S.real
  · simp only [dirJet, S.den]; ring
  · simp only [dirJet, S.den2]; ring

/-- the step of every unary case of `evalD2_refines`: it remains to compare the chain-rule jet with the
scalar rule -/
theorem chain_refines {a r : Dual2 ℝ} {f0 c1 c2 : ℝ} (S : ChainSpec a r f0 c1 c2) (α β : ℝ) (v w : String)
    {j : J2} (hj : (⟨f0, c1 * (dirJet α β v w a).v1, c1 * (dirJet α β v w a).v2
      + c2 * ((dirJet α β v w a).v1 * (dirJet α β v w a).v1)⟩ : J2) = j) :
    r.WF ∧ dirJet α β v w r = j :=
  ⟨S.wf, (chain_dirJet S α β v w).trans hj⟩

theorem dirJet_v0 (α β : ℝ) (v w : String) (d : Dual2 ℝ) : (dirJet α β v w d).v0 = d.real := rfl

theorem dirJet_const (f α β : ℝ) (v w : String) : dirJet α β v w (Dual2.new f []) = ⟨f, 0, 0⟩ := by
  obtain ⟨_, r, d1, d2⟩ := Dual2.new_const_spec f
  apply J2.ext'
  · exact r
  · simp [dirJet, d1]
  · simp [dirJet, d2]

theorem add_dirJet (a b : Dual2 ℝ) (ha : a.WF) (hb : b.WF) (α β : ℝ) (v w : String) :
    (Dual2.add false a b).WF ∧ dirJet α β v w (Dual2.add false a b)
      = ⟨(dirJet α β v w a).v0 + (dirJet α β v w b).v0, (dirJet α β v w a).v1 + (dirJet α β v w b).v1,
          (dirJet α β v w a).v2 + (dirJet α β v w b).v2⟩ := by
  have S := Dual2.add_spec false a b ha hb (by simp)
  refine ⟨S.wf, J2.ext' S.real ?_ ?_⟩
  · simp only [dirJet, S.den]; ring
  · simp only [dirJet, S.den2]; ring

theorem sub_dirJet (a b : Dual2 ℝ) (ha : a.WF) (hb : b.WF) (α β : ℝ) (v w : String) :
    (Dual2.sub false a b).WF ∧ dirJet α β v w (Dual2.sub false a b)
      = ⟨(dirJet α β v w a).v0 - (dirJet α β v w b).v0, (dirJet α β v w a).v1 - (dirJet α β v w b).v1,
          (dirJet α β v w a).v2 - (dirJet α β v w b).v2⟩ := by
  have S := Dual2.sub_spec false a b ha hb (by simp)
  refine ⟨S.wf, J2.ext' S.real ?_ ?_⟩
  · simp only [dirJet, S.den]; ring
  · simp only [dirJet, S.den2]; ring

theorem mul_dirJet (a b : Dual2 ℝ) (ha : a.WF) (hb : b.WF) (α β : ℝ) (v w : String) :
    (Dual2.mul false a b).WF ∧
      dirJet α β v w (Dual2.mul false a b) = mulJ2 (dirJet α β v w a) (dirJet α β v w b) := by
  have S := Dual2.mul_spec false a b ha hb (by simp)
  refine ⟨S.wf, J2.ext' S.real ?_ ?_⟩
  · simp only [dirJet, mulJ2, S.den]; ring
  · simp only [dirJet, mulJ2, S.den2, half]; ring

theorem pow_dirJet (a : Dual2 ℝ) (ha : a.WF) (p : ℝ) (α β : ℝ) (v w : String) :
    (Dual2.pow a p).WF ∧ dirJet α β v w (Dual2.pow a p) = powJ2 (dirJet α β v w a) p := by
  refine chain_refines (Dual2.pow_spec a ha p) α β v w (J2.ext' rfl ?_ ?_)
  · simp only [powJ2, dirJet]; ring
  · simp only [powJ2, dirJet]; ring

theorem evalD2_refines (e : Expr) (env : Nat → Dual2 ℝ) (hwf : ∀ i, (env i).WF)
    (α β : ℝ) (v w : String) :
    (evalD2 e env).WF ∧
      dirJet α β v w (evalD2 e env) = evalJ2 e (fun i => dirJet α β v w (env i)) := by
  induction e with
  | leaf i => exact ⟨hwf i, rfl⟩
  | const c =>
    exact ⟨Dual2.new_wf c [], dirJet_const c α β v w⟩
  | add a b iha ihb =>
    simp only [evalD2, evalJ2, ← iha.2, ← ihb.2]
    exact add_dirJet _ _ iha.1 ihb.1 α β v w
  | sub a b iha ihb =>
    simp only [evalD2, evalJ2, ← iha.2, ← ihb.2]
    exact sub_dirJet _ _ iha.1 ihb.1 α β v w
  | mul a b iha ihb =>
    simp only [evalD2, evalJ2, ← iha.2, ← ihb.2]
    exact mul_dirJet _ _ iha.1 ihb.1 α β v w
  | div a b iha ihb =>
    -- `a / b` is `a * b.pow(-1)`
    obtain ⟨wp, jp⟩ := pow_dirJet (evalD2 b env) ihb.1 (-1) α β v w
    simp only [evalD2, evalJ2, ← iha.2, ← ihb.2, Dual2.div, ← jp]
    exact mul_dirJet _ _ iha.1 wp α β v w
  | neg a iha =>
    -- the chain cases: `chain_refines` leaves the identity between the jet built from the code's coefficients
    -- `(f0, c1, c2)` and the jet formula, component by component; components that agree as written need no `ring`
    simp only [evalD2, evalJ2, ← iha.2]
    refine chain_refines (Dual2.neg_spec _ iha.1) α β v w ?_
    apply J2.ext' <;> simp only [dirJet] <;> ring
  | powc a p iha =>
    simp only [evalD2, evalJ2, ← iha.2]
    exact pow_dirJet _ iha.1 p α β v w
  | exp a iha =>
    simp only [evalD2, evalJ2, ← iha.2]
    refine chain_refines (Dual2.exp_spec _ iha.1) α β v w ?_
    apply J2.ext' <;> simp only [dirJet]
    ring
  | log a iha =>
    simp only [evalD2, evalJ2, ← iha.2]
    refine chain_refines (Dual2.log_spec _ iha.1) α β v w ?_
    apply J2.ext' <;> simp only [dirJet]
    ring
  | ncdf a iha =>
    simp only [evalD2, evalJ2, ← iha.2]
    refine chain_refines (Dual2.normCdf_spec _ iha.1) α β v w ?_
    apply J2.ext' <;> simp only [dirJet]
  | nicdf a iha =>
    simp only [evalD2, evalJ2, ← iha.2]
    refine chain_refines (Dual2.invNormCdf_spec _ iha.1) α β v w ?_
    apply J2.ext' <;> simp only [dirJet, invPdf_real]
  | abs a iha =>
    simp only [evalD2, evalJ2, ← iha.2, dirJet_v0]
    refine chain_refines (Dual2.abs_spec _ iha.1) α β v w ?_
    by_cases hpos : 0 < (evalD2 a env).real
    · rw [if_pos hpos, if_pos hpos, abs_of_pos hpos]
      apply J2.ext' <;> simp only [dirJet] <;> ring
    · rw [if_neg hpos, if_neg hpos, abs_of_nonpos (not_lt.1 hpos)]
      apply J2.ext' <;> simp only [dirJet]
      ring

/-- symmetric stored Hessian, by name -/
def Sym2 (d : Dual2 ℝ) : Prop := ∀ n w, Dual2.den2 d n w = Dual2.den2 d w n

theorem chain_sym {a r : Dual2 ℝ} {f0 c1 c2 : ℝ} (S : ChainSpec a r f0 c1 c2) (h : Sym2 a) : Sym2 r := by
  intro n w
  rw [S.den2, S.den2, h n w]; ring

theorem evalD2_sym (e : Expr) (env : Nat → Dual2 ℝ) (hwf : ∀ i, (env i).WF) (hs : ∀ i, Sym2 (env i)) :
    Sym2 (evalD2 e env) := by
  -- only the well-formedness half is read; direction and names are irrelevant to it
  have W : ∀ e : Expr, (evalD2 e env).WF := fun e => (evalD2_refines e env hwf 0 0 "" "").1
  induction e with
  | leaf i => exact hs i
  | const c =>
    intro n w
    simp only [evalD2]
    rw [(Dual2.new_const_spec c).2.2.2, (Dual2.new_const_spec c).2.2.2]
  | add a b iha ihb =>
    intro n w
    have S := Dual2.add_spec false (evalD2 a env) (evalD2 b env) (W a) (W b) (by simp)
    simp only [evalD2]; rw [S.den2, S.den2, iha n w, ihb n w]
  | sub a b iha ihb =>
    intro n w
    have S := Dual2.sub_spec false (evalD2 a env) (evalD2 b env) (W a) (W b) (by simp)
    simp only [evalD2]; rw [S.den2, S.den2, iha n w, ihb n w]
  | mul a b iha ihb =>
    intro n w
    have S := Dual2.mul_spec false (evalD2 a env) (evalD2 b env) (W a) (W b) (by simp)
    simp only [evalD2]; rw [S.den2, S.den2, iha n w, ihb n w]; ring
  | div a b iha ihb =>
    intro n w
    have P := Dual2.pow_spec (evalD2 b env) (W b) (-1)
    have hp := chain_sym P ihb
    have S := Dual2.mul_spec false (evalD2 a env) _ (W a) P.wf (by simp)
    simp only [evalD2, Dual2.div]; rw [S.den2, S.den2, iha n w, hp n w]; ring
  | neg a iha => exact chain_sym (Dual2.neg_spec _ (W a)) iha
  | powc a p iha => exact chain_sym (Dual2.pow_spec _ (W a) p) iha
  | exp a iha => exact chain_sym (Dual2.exp_spec _ (W a)) iha
  | log a iha => exact chain_sym (Dual2.log_spec _ (W a)) iha
  | ncdf a iha => exact chain_sym (Dual2.normCdf_spec _ (W a)) iha
  | nicdf a iha => exact chain_sym (Dual2.invNormCdf_spec _ (W a)) iha
  | abs a iha => exact chain_sym (Dual2.abs_spec _ (W a)) iha

end Expr
end Rateslib
