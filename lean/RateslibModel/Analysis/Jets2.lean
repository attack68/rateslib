/-
`Jet2At`: value, first and HALF second derivative of a curve at a point (the half is what the code stores),
with sum, product and chain rule to second order, and the outer functions of C01/C02 with their first and
second derivatives.
-/
import RateslibModel.Analysis.Jets
namespace Rateslib
open Real Filter Topology

/-- `φ` has value `a0`, first derivative `a1` and second derivative `2·a2` at `t₀`. -/
structure Jet2At (φ : ℝ → ℝ) (t₀ a0 a1 a2 : ℝ) : Prop where
  val : φ t₀ = a0
  der : ∃ φ' : ℝ → ℝ, (∀ᶠ t in 𝓝 t₀, HasDerivAt φ (φ' t) t) ∧ φ' t₀ = a1 ∧ HasDerivAt φ' (2 * a2) t₀

namespace Jet2At

theorem hasDerivAt {φ : ℝ → ℝ} {t₀ a0 a1 a2 : ℝ} (h : Jet2At φ t₀ a0 a1 a2) : HasDerivAt φ a1 t₀ := by
  obtain ⟨φ', h1, h2, _⟩ := h.der
  rw [← h2]; exact h1.self_of_nhds

theorem of_eq {φ : ℝ → ℝ} {t₀ a0 a1 a2 b0 b1 b2 : ℝ} (h : Jet2At φ t₀ a0 a1 a2)
    (e0 : a0 = b0) (e1 : a1 = b1) (e2 : a2 = b2) : Jet2At φ t₀ b0 b1 b2 := by
  subst e0 e1 e2
  exact h

theorem const (c t₀ : ℝ) : Jet2At (fun _ => c) t₀ c 0 0 :=
  ⟨rfl, fun _ => 0, Eventually.of_forall fun t => hasDerivAt_const t c, rfl,
    by simpa using hasDerivAt_const t₀ (0 : ℝ)⟩

theorem add {φ ψ : ℝ → ℝ} {t₀ a0 a1 a2 b0 b1 b2 : ℝ} (ha : Jet2At φ t₀ a0 a1 a2)
    (hb : Jet2At ψ t₀ b0 b1 b2) : Jet2At (fun t => φ t + ψ t) t₀ (a0 + b0) (a1 + b1) (a2 + b2) := by
  obtain ⟨φ', h1, h2, h3⟩ := ha.der
  obtain ⟨ψ', g1, g2, g3⟩ := hb.der
  refine ⟨by simp only [ha.val, hb.val], fun t => φ' t + ψ' t, ?_, by simp only [h2, g2], ?_⟩
  · filter_upwards [h1, g1] with t p q using p.add q
  · exact (h3.add g3).congr_deriv (by ring)

theorem neg {φ : ℝ → ℝ} {t₀ a0 a1 a2 : ℝ} (ha : Jet2At φ t₀ a0 a1 a2) :
    Jet2At (fun t => -φ t) t₀ (-a0) (-a1) (-a2) := by
  obtain ⟨φ', h1, h2, h3⟩ := ha.der
  refine ⟨by simp only [ha.val], fun t => -φ' t, ?_, by simp only [h2], ?_⟩
  · filter_upwards [h1] with t p using p.neg
  · exact h3.neg.congr_deriv (by ring)

theorem sub {φ ψ : ℝ → ℝ} {t₀ a0 a1 a2 b0 b1 b2 : ℝ} (ha : Jet2At φ t₀ a0 a1 a2)
    (hb : Jet2At ψ t₀ b0 b1 b2) : Jet2At (fun t => φ t - ψ t) t₀ (a0 - b0) (a1 - b1) (a2 - b2) := by
  have := ha.add hb.neg
  simpa only [sub_eq_add_neg] using this

/-- product rule to second order: `(a0 b0, a1 b0 + b1 a0, a2 b0 + b2 a0 + a1 b1)` -/
theorem mul {φ ψ : ℝ → ℝ} {t₀ a0 a1 a2 b0 b1 b2 : ℝ} (ha : Jet2At φ t₀ a0 a1 a2)
    (hb : Jet2At ψ t₀ b0 b1 b2) :
    Jet2At (fun t => φ t * ψ t) t₀ (a0 * b0) (a1 * b0 + b1 * a0) (a2 * b0 + b2 * a0 + a1 * b1) := by
  obtain ⟨φ', h1, h2, h3⟩ := ha.der
  obtain ⟨ψ', g1, g2, g3⟩ := hb.der
  have hφ := ha.hasDerivAt
  have hψ := hb.hasDerivAt
  refine ⟨by simp only [ha.val, hb.val], fun t => φ' t * ψ t + φ t * ψ' t, ?_, ?_, ?_⟩
  · filter_upwards [h1, g1] with t p q using p.mul q
  · simp only [h2, g2, ha.val, hb.val]; ring
  · have := (h3.mul hψ).add (hφ.mul g3)
    exact this.congr_deriv (by simp only [h2, g2, ha.val, hb.val]; ring)

/-- chain rule to second order for an outer function `g` with derivatives `g'`, `g''` near `a0`:
`(g a0, g' a0 · a1, ½ g'' a0 · a1² + g' a0 · a2)` -/
theorem comp {φ : ℝ → ℝ} {t₀ a0 a1 a2 : ℝ} (ha : Jet2At φ t₀ a0 a1 a2) (g g' : ℝ → ℝ) (g2 : ℝ)
    (hg : ∀ᶠ x in 𝓝 a0, HasDerivAt g (g' x) x) (hg' : HasDerivAt g' g2 a0) :
    Jet2At (fun t => g (φ t)) t₀ (g a0) (g' a0 * a1) (1 / 2 * g2 * a1 ^ 2 + g' a0 * a2) := by
  obtain ⟨φ', h1, h2, h3⟩ := ha.der
  have hφ := ha.hasDerivAt
  have hcont : Tendsto φ (𝓝 t₀) (𝓝 a0) := by
    have := hφ.continuousAt.tendsto; rwa [ha.val] at this
  refine ⟨by simp only [ha.val], fun t => g' (φ t) * φ' t, ?_, by simp only [ha.val, h2], ?_⟩
  · filter_upwards [h1, hcont.eventually hg] with t p q using q.comp t p
  · have hg'' : HasDerivAt g' g2 (φ t₀) := by rw [ha.val]; exact hg'
    have := (hg''.comp t₀ hφ).mul h3
    exact this.congr_deriv (by simp only [ha.val, h2, Function.comp]; ring)

end Jet2At

theorem exp_jet (a0 : ℝ) : (∀ᶠ x in 𝓝 a0, HasDerivAt Real.exp (Real.exp x) x) ∧
    HasDerivAt Real.exp (Real.exp a0) a0 :=
  ⟨Eventually.of_forall Real.hasDerivAt_exp, Real.hasDerivAt_exp a0⟩

theorem log_jet (a0 : ℝ) (h : 0 < a0) : (∀ᶠ x in 𝓝 a0, HasDerivAt Real.log (1 / x) x) ∧
    HasDerivAt (fun x : ℝ => 1 / x) (-(1 / a0) * (1 / a0)) a0 := by
  refine ⟨?_, ?_⟩
  · filter_upwards [lt_mem_nhds h] with x hx
    simpa [one_div] using Real.hasDerivAt_log hx.ne'
  · have := (hasDerivAt_id a0).inv h.ne'
    simp only [one_div]
    exact this.congr_deriv (by simp only [id]; field_simp)

/-- `x ↦ x^p` with its first and second derivative near `a0` — away from 0 for every real `p`, and AT 0
exactly where `x^p` is twice differentiable there: `p ≥ 2`, and the polynomials `x¹`, `x⁰` -/
theorem rpow_jet (a0 p : ℝ) (h : a0 ≠ 0 ∨ 2 ≤ p ∨ p = 1 ∨ p = 0) :
    (∀ᶠ x in 𝓝 a0, HasDerivAt (fun x : ℝ => x ^ p) (p * x ^ (p - 1)) x) ∧
    HasDerivAt (fun x : ℝ => p * x ^ (p - 1)) (p * ((p - 1) * a0 ^ (p - 2))) a0 := by
  rcases h with h | h | h | h
  · refine ⟨?_, ?_⟩
    · filter_upwards [isOpen_ne.mem_nhds h] with x hx
      exact Real.hasDerivAt_rpow_const (Or.inl hx)
    · have := (Real.hasDerivAt_rpow_const (p := p - 1) (Or.inl h)).const_mul p
      exact this.congr_deriv (by ring_nf)
  · refine ⟨?_, ?_⟩
    · exact Eventually.of_forall fun x => Real.hasDerivAt_rpow_const (Or.inr (by linarith))
    · have := (Real.hasDerivAt_rpow_const (x := a0) (p := p - 1) (Or.inr (by linarith))).const_mul p
      exact this.congr_deriv (by ring_nf)
  · subst h
    refine ⟨?_, ?_⟩
    · exact Eventually.of_forall fun x => Real.hasDerivAt_rpow_const (Or.inr (le_refl _))
    · have hc : (fun x : ℝ => (1 : ℝ) * x ^ ((1 : ℝ) - 1)) = fun _ => (1 : ℝ) := by
        funext x; simp
      rw [hc]
      exact (hasDerivAt_const a0 (1 : ℝ)).congr_deriv (by ring)
  · subst h
    refine ⟨?_, ?_⟩
    · refine Eventually.of_forall fun x => ?_
      have hc : (fun x : ℝ => x ^ (0 : ℝ)) = fun _ => (1 : ℝ) := by funext y; simp
      rw [hc]
      exact (hasDerivAt_const x (1 : ℝ)).congr_deriv (by ring)
    · have hc : (fun x : ℝ => (0 : ℝ) * x ^ ((0 : ℝ) - 1)) = fun _ => (0 : ℝ) := by funext x; simp
      rw [hc]
      exact (hasDerivAt_const a0 (0 : ℝ)).congr_deriv (by ring)

theorem phi_hasDerivAt (x : ℝ) : HasDerivAt phi (-x * phi x) x := by
  unfold phi
  simp only [Real.rpow_two]
  have h1 : HasDerivAt (fun y : ℝ => -(1 / 2) * y ^ 2) (-(1 / 2) * (2 * x)) x := by
    have := (hasDerivAt_pow 2 x).const_mul (-(1 / 2) : ℝ)
    simpa using this
  have := (h1.exp).const_mul (1 / Real.sqrt (2 * π))
  exact this.congr_deriv (by ring)

theorem Phi_jet (a0 : ℝ) : (∀ᶠ x in 𝓝 a0, HasDerivAt Phi (phi x) x) ∧
    HasDerivAt phi (-a0 * phi a0) a0 :=
  ⟨Eventually.of_forall Phi_hasDerivAt, phi_hasDerivAt a0⟩

theorem range_Phi_mem_nhds (x : ℝ) : Set.range Phi ∈ 𝓝 (Phi x) := by
  rw [← (Phi_hasStrictDerivAt x).map_nhds_eq (phi_pos x).ne']
  exact Filter.range_mem_map

theorem PhiInv_jet (p : ℝ) (hp : p ∈ Set.range Phi) :
    (∀ᶠ q in 𝓝 p, HasDerivAt PhiInv (1 / phi (PhiInv q)) q) ∧
    HasDerivAt (fun q => 1 / phi (PhiInv q)) ((1 / phi (PhiInv p)) ^ 2 * PhiInv p) p := by
  obtain ⟨x, rfl⟩ := hp
  refine ⟨?_, ?_⟩
  · filter_upwards [range_Phi_mem_nhds x] with q hq using PhiInv_hasDerivAt q hq
  · have hinv := PhiInv_hasDerivAt (Phi x) ⟨x, rfl⟩
    have hphi := (phi_hasDerivAt (PhiInv (Phi x))).comp (Phi x) hinv
    have hne : phi (PhiInv (Phi x)) ≠ 0 := (phi_pos _).ne'
    have := hphi.inv hne
    simp only [one_div]
    exact this.congr_deriv (by simp only [Function.comp]; field_simp)

/-- the derivative is written `(fun _ => 1) x` so that the statement has the shape `Jet2At.comp` asks for -/
theorem abs_jet_pos (a0 : ℝ) (h : 0 < a0) :
    (∀ᶠ x in 𝓝 a0, HasDerivAt (fun x : ℝ => |x|) ((fun _ => (1 : ℝ)) x) x) ∧
    HasDerivAt (fun _ : ℝ => (1 : ℝ)) 0 a0 := by
  refine ⟨?_, hasDerivAt_const a0 1⟩
  filter_upwards [lt_mem_nhds h] with x hx using hasDerivAt_abs_pos hx

theorem abs_jet_neg (a0 : ℝ) (h : a0 < 0) :
    (∀ᶠ x in 𝓝 a0, HasDerivAt (fun x : ℝ => |x|) ((fun _ => (-1 : ℝ)) x) x) ∧
    HasDerivAt (fun _ : ℝ => (-1 : ℝ)) 0 a0 := by
  refine ⟨?_, hasDerivAt_const a0 (-1)⟩
  filter_upwards [gt_mem_nhds h] with x hx using hasDerivAt_abs_neg hx

end Rateslib
