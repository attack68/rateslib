/-
The scalar 2-jet `J2` of an expression, computed with the formulas of the `Dual2` code projected on a
direction, and its soundness (`jet2_sound`) on the domain `Dom2`.
-/
import RateslibModel.Analysis.Jets2
namespace Rateslib
open Real

/-- (value, first derivative, HALF second derivative) -/
structure J2 where
  v0 : ℝ
  v1 : ℝ
  v2 : ℝ

namespace Expr

/-- points at which the expression is twice differentiable -/
def Dom2 : Expr → (Nat → ℝ) → Prop
  | leaf _, _ => True
  | const _, _ => True
  | add a b, v => Dom2 a v ∧ Dom2 b v
  | sub a b, v => Dom2 a v ∧ Dom2 b v
  | mul a b, v => Dom2 a v ∧ Dom2 b v
  | div a b, v => Dom2 a v ∧ Dom2 b v ∧ evalR b v ≠ 0
  | neg a, v => Dom2 a v
  | powc a p, v => Dom2 a v ∧ (evalR a v ≠ 0 ∨ 2 ≤ p ∨ p = 1 ∨ p = 0)
  | exp a, v => Dom2 a v
  | log a, v => Dom2 a v ∧ 0 < evalR a v
  | ncdf a, v => Dom2 a v
  | nicdf a, v => Dom2 a v ∧ evalR a v ∈ Set.range Phi
  | abs a, v => Dom2 a v ∧ evalR a v ≠ 0

/-- the product of two second-order jets as `Dual2 * Dual2` computes it (mul.rs:46-74 projected on a
direction: `dual2 = A_a b0 + A_b a0 + ½(αβᵀ + βαᵀ)`) -/
noncomputable def mulJ2 (a b : J2) : J2 :=
  ⟨a.v0 * b.v0, a.v1 * b.v0 + b.v1 * a.v0,
   (a.v2 * b.v0 + b.v2 * a.v0) + 1 / 2 * (a.v1 * b.v1 + b.v1 * a.v1)⟩

/-- `Dual2::pow` (pow.rs) -/
noncomputable def powJ2 (a : J2) (p : ℝ) : J2 :=
  let coeff := p * a.v0 ^ (p - 1)
  let coeff2 := 1 / 2 * p * (p - 1) * a.v0 ^ (p - 2)
  ⟨a.v0 ^ p, a.v1 * coeff, a.v2 * coeff + (a.v1 * a.v1) * coeff2⟩

/-- second-order scalar jets with the code's formulas (Model/Dual.lean, namespace Dual2) -/
noncomputable def evalJ2 : Expr → (Nat → J2) → J2
  | leaf i, j => j i
  | const c, _ => ⟨c, 0, 0⟩
  | add a b, j => ⟨(evalJ2 a j).v0 + (evalJ2 b j).v0, (evalJ2 a j).v1 + (evalJ2 b j).v1,
                   (evalJ2 a j).v2 + (evalJ2 b j).v2⟩
  | sub a b, j => ⟨(evalJ2 a j).v0 - (evalJ2 b j).v0, (evalJ2 a j).v1 - (evalJ2 b j).v1,
                   (evalJ2 a j).v2 - (evalJ2 b j).v2⟩
  | mul a b, j => mulJ2 (evalJ2 a j) (evalJ2 b j)
  | div a b, j => mulJ2 (evalJ2 a j) (powJ2 (evalJ2 b j) (-1))
  | neg a, j => ⟨-(evalJ2 a j).v0, -(evalJ2 a j).v1, -(evalJ2 a j).v2⟩
  | powc a p, j => powJ2 (evalJ2 a j) p
  | exp a, j =>
    let x := evalJ2 a j
    let c := Real.exp x.v0
    ⟨c, c * x.v1, c * (x.v2 + 1 / 2 * (x.v1 * x.v1))⟩
  | log a, j =>
    let x := evalJ2 a j
    let s := 1 / x.v0
    ⟨Real.log x.v0, s * x.v1, s * x.v2 - (x.v1 * x.v1) * (1 / 2) * (s * s)⟩
  | ncdf a, j =>
    let x := evalJ2 a j
    let scalar := phi x.v0
    let scalar2 := scalar * -x.v0
    ⟨Phi x.v0, scalar * x.v1, scalar * x.v2 + (1 / 2 * scalar2) * (x.v1 * x.v1)⟩
  | nicdf a, j =>
    let x := evalJ2 a j
    let base := PhiInv x.v0
    let scalar := Real.sqrt (2 * π) * Real.exp (1 / 2 * base ^ (2 : ℝ))
    let scalar2 := scalar ^ (2 : ℝ) * base
    ⟨base, scalar * x.v1, scalar * x.v2 + (1 / 2 * scalar2) * (x.v1 * x.v1)⟩
  | abs a, j =>
    let x := evalJ2 a j
    if 0 < x.v0 then x else ⟨-x.v0, -1 * x.v1, -1 * x.v2⟩

theorem powJ2_sound {φ : ℝ → ℝ} {t₀ : ℝ} {a : J2} (p : ℝ) (h : Jet2At φ t₀ a.v0 a.v1 a.v2)
    (hne : a.v0 ≠ 0 ∨ 2 ≤ p ∨ p = 1 ∨ p = 0) :
    Jet2At (fun t => φ t ^ p) t₀ (powJ2 a p).v0 (powJ2 a p).v1 (powJ2 a p).v2 := by
  obtain ⟨g1, g2⟩ := rpow_jet a.v0 p hne
  have := h.comp (fun x => x ^ p) (fun x => p * x ^ (p - 1)) _ g1 g2
  exact this.of_eq rfl (by simp only [powJ2]; ring) (by simp only [powJ2]; ring)

theorem mulJ2_sound {φ ψ : ℝ → ℝ} {t₀ : ℝ} {a b : J2} (ha : Jet2At φ t₀ a.v0 a.v1 a.v2)
    (hb : Jet2At ψ t₀ b.v0 b.v1 b.v2) :
    Jet2At (fun t => φ t * ψ t) t₀ (mulJ2 a b).v0 (mulJ2 a b).v1 (mulJ2 a b).v2 :=
  (ha.mul hb).of_eq rfl rfl (by simp only [mulJ2]; ring)

theorem jet2_sound (e : Expr) (u : Nat → ℝ → ℝ) (t₀ : ℝ) (j : Nat → J2)
    (hu : ∀ i, Jet2At (u i) t₀ (j i).v0 (j i).v1 (j i).v2) (hd : Dom2 e (fun i => u i t₀)) :
    Jet2At (fun t => evalR e (fun i => u i t)) t₀ (evalJ2 e j).v0 (evalJ2 e j).v1 (evalJ2 e j).v2 := by
  induction e with
  | leaf i => exact hu i
  | const c => exact Jet2At.const c t₀
  | add a b iha ihb => exact (iha hd.1).add (ihb hd.2)
  | sub a b iha ihb => exact (iha hd.1).sub (ihb hd.2)
  | mul a b iha ihb => exact mulJ2_sound (iha hd.1) (ihb hd.2)
  | div a b iha ihb =>
    have hb := ihb hd.2.1
    have hne : (evalJ2 b j).v0 ≠ 0 := by rw [← hb.val]; exact hd.2.2
    have hp := powJ2_sound (-1) hb (Or.inl hne)
    have := mulJ2_sound (iha hd.1) hp
    have heq : (fun t => evalR (div a b) fun i => u i t)
        = fun t => (evalR a fun i => u i t) * (evalR b fun i => u i t) ^ (-1 : ℝ) := by
      funext t; simp only [evalR, Real.rpow_neg_one, div_eq_mul_inv]
    rw [heq]; exact this
  | neg a iha => exact (iha hd).neg
  | powc a p iha =>
    have ha := iha hd.1
    exact powJ2_sound p ha (by rw [← ha.val]; exact hd.2)
  | exp a iha =>
    have ha := iha hd
    obtain ⟨g1, g2⟩ := exp_jet (evalJ2 a j).v0
    exact (ha.comp Real.exp Real.exp _ g1 g2).of_eq rfl rfl (by simp only [evalJ2]; ring)
  | log a iha =>
    have ha := iha hd.1
    have hpos : 0 < (evalJ2 a j).v0 := by rw [← ha.val]; exact hd.2
    obtain ⟨g1, g2⟩ := log_jet (evalJ2 a j).v0 hpos
    exact (ha.comp Real.log (fun x => 1 / x) _ g1 g2).of_eq rfl rfl (by simp only [evalJ2]; ring)
  | ncdf a iha =>
    have ha := iha hd
    obtain ⟨g1, g2⟩ := Phi_jet (evalJ2 a j).v0
    exact (ha.comp Phi phi _ g1 g2).of_eq rfl rfl (by simp only [evalJ2]; ring)
  | nicdf a iha =>
    have ha := iha hd.1
    have hr : (evalJ2 a j).v0 ∈ Set.range Phi := by rw [← ha.val]; exact hd.2
    obtain ⟨g1, g2⟩ := PhiInv_jet (evalJ2 a j).v0 hr
    have hs := inv_phi (PhiInv (evalJ2 a j).v0)
    refine (ha.comp PhiInv (fun q => 1 / phi (PhiInv q)) _ g1 g2).of_eq rfl ?_ ?_
    · simp only [evalJ2]; rw [hs]
    · simp only [evalJ2]; rw [hs, Real.rpow_two]; ring
  | abs a iha =>
    have ha := iha hd.1
    have hne : (evalJ2 a j).v0 ≠ 0 := by rw [← ha.val]; exact hd.2
    by_cases hpos : 0 < (evalJ2 a j).v0
    · obtain ⟨g1, g2⟩ := abs_jet_pos (evalJ2 a j).v0 hpos
      have := ha.comp (fun x => |x|) (fun _ => 1) _ g1 g2
      refine this.of_eq ?_ ?_ ?_
      · simp only [evalJ2, if_pos hpos, abs_of_pos hpos]
      · simp only [evalJ2, if_pos hpos]; ring
      · simp only [evalJ2, if_pos hpos]; ring
    · have hneg : (evalJ2 a j).v0 < 0 := lt_of_le_of_ne (not_lt.1 hpos) hne
      obtain ⟨g1, g2⟩ := abs_jet_neg (evalJ2 a j).v0 hneg
      have := ha.comp (fun x => |x|) (fun _ => -1) _ g1 g2
      refine this.of_eq ?_ ?_ ?_
      · simp only [evalJ2, if_neg hpos, abs_of_neg hneg]
      · simp only [evalJ2, if_neg hpos]
      · simp only [evalJ2, if_neg hpos]; ring

end Expr
end Rateslib
