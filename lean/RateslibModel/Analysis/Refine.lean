/-
Refinement: evaluating an expression with the list-based first-order dual numbers of the model
(over ℝ) yields, for every variable name, exactly the scalar jet of the expression.
-/
import RateslibModel.Analysis.Jets
import RateslibModel.Proofs.DualOps
namespace Rateslib
open Rateslib.Dual

namespace Expr

/-- evaluation on the model's first-order dual numbers, constants promoted to variable-free duals -/
noncomputable def evalD : Expr → (Nat → Dual ℝ) → Dual ℝ
  | leaf i, env => env i
  | const c, _ => Dual.new c []
  | add a b, env => Dual.add false (evalD a env) (evalD b env)
  | sub a b, env => Dual.sub false (evalD a env) (evalD b env)
  | mul a b, env => Dual.mul false (evalD a env) (evalD b env)
  | div a b, env => Dual.div false (evalD a env) (evalD b env)
  | neg a, env => Dual.neg (evalD a env)
  | powc a p, env => Dual.pow (evalD a env) p
  | exp a, env => Dual.exp (evalD a env)
  | log a, env => Dual.log (evalD a env)
  | ncdf a, env => Dual.normCdf (evalD a env)
  | nicdf a, env => Dual.invNormCdf (evalD a env)
  | abs a, env => Dual.abs (evalD a env)

/-- (value, derivative w.r.t. the variable named `v`) -/
noncomputable def jetOf (d : Dual ℝ) (v : String) : ℝ × ℝ := (d.real, den d v)

theorem jetOf_fst (d : Dual ℝ) (v : String) : (jetOf d v).1 = d.real := rfl
theorem jetOf_snd (d : Dual ℝ) (v : String) : (jetOf d v).2 = den d v := rfl

/-! `jetOf · v` commutes with the arithmetic. -/

theorem const_jetOf (c : ℝ) (v : String) : (Dual.new c []).WF ∧ jetOf (Dual.new c []) v = (c, 0) :=
  ⟨Dual.new_wf c [], Prod.ext rfl (Dual.den_new_nil c v)⟩

theorem add_jetOf (a b : Dual ℝ) (ha : a.WF) (hb : b.WF) (v : String) :
    (Dual.add false a b).WF ∧ jetOf (Dual.add false a b) v = (a.real + b.real, den a v + den b v) :=
  have S := add_spec false a b ha hb (by simp)
  ⟨S.wf, Prod.ext S.real (S.den v)⟩

theorem sub_jetOf (a b : Dual ℝ) (ha : a.WF) (hb : b.WF) (v : String) :
    (Dual.sub false a b).WF ∧ jetOf (Dual.sub false a b) v = (a.real - b.real, den a v - den b v) :=
  have S := sub_spec false a b ha hb (by simp)
  ⟨S.wf, Prod.ext S.real (S.den v)⟩

theorem mul_jetOf (a b : Dual ℝ) (ha : a.WF) (hb : b.WF) (v : String) :
    (Dual.mul false a b).WF ∧
      jetOf (Dual.mul false a b) v = (a.real * b.real, den a v * b.real + den b v * a.real) :=
  have S := mul_spec false a b ha hb (by simp)
  ⟨S.wf, Prod.ext S.real (S.den v)⟩

theorem scaleL_jetOf (x : Dual ℝ) (hx : x.WF) (r s : ℝ) (v : String) :
    (⟨r, x.vars, vscaleL s x.dual⟩ : Dual ℝ).WF ∧ jetOf ⟨r, x.vars, vscaleL s x.dual⟩ v = (r, s * den x v) :=
  ⟨wf_scaleL x s r hx, Prod.ext rfl (den_scaleL x s r v)⟩

theorem div_jetOf (a b : Dual ℝ) (ha : a.WF) (hb : b.WF) (v : String) :
    (Dual.div false a b).WF ∧ jetOf (Dual.div false a b) v
      = (a.real * (1 / b.real), den a v * (1 / b.real) + (-1 / (b.real * b.real) * den b v) * a.real) := by
  obtain ⟨w, j⟩ := mul_jetOf a _ ha (wf_scaleL b (-1 / (b.real * b.real)) (1 / b.real) hb) v
  exact ⟨w, j.trans (by rw [den_scaleL b])⟩

theorem neg_jetOf (a : Dual ℝ) (ha : a.WF) (v : String) :
    (Dual.neg a).WF ∧ jetOf (Dual.neg a) v = (-a.real, -den a v) :=
  ⟨wf_neg a _ ha, Prod.ext rfl (den_neg a _ v)⟩

theorem pow_jetOf (a : Dual ℝ) (ha : a.WF) (p : ℝ) (v : String) :
    (Dual.pow a p).WF ∧ jetOf (Dual.pow a p) v = (a.real ^ p, den a v * p * a.real ^ (p - 1)) := by
  refine ⟨wf_scaleR ⟨a.real, a.vars, vscaleR a.dual p⟩ _ _ (wf_scaleR a p _ ha), Prod.ext rfl ?_⟩
  have h1 := den_scaleR ⟨a.real, a.vars, vscaleR a.dual p⟩ (Dual.coeffPow p a.real (p - 1))
    (Transc.powf a.real p) v
  rw [den_scaleR a p a.real v] at h1
  exact h1.trans (by rw [mul_assoc, coeffPow_real, ← mul_assoc])

theorem evalD_refines (e : Expr) (env : Nat → Dual ℝ) (hwf : ∀ i, (env i).WF) (v : String) :
    (evalD e env).WF ∧ jetOf (evalD e env) v = evalJ e (fun i => jetOf (env i) v) := by
  induction e with
  | leaf i => exact ⟨hwf i, rfl⟩
  | const c => exact const_jetOf c v
  | add a b iha ihb =>
    simp only [evalD, evalJ, ← iha.2, ← ihb.2]
    exact add_jetOf _ _ iha.1 ihb.1 v
  | sub a b iha ihb =>
    simp only [evalD, evalJ, ← iha.2, ← ihb.2]
    exact sub_jetOf _ _ iha.1 ihb.1 v
  | mul a b iha ihb =>
    simp only [evalD, evalJ, ← iha.2, ← ihb.2]
    exact mul_jetOf _ _ iha.1 ihb.1 v
  | div a b iha ihb =>
    simp only [evalD, evalJ, ← iha.2, ← ihb.2]
    exact div_jetOf _ _ iha.1 ihb.1 v
  | neg a iha =>
    simp only [evalD, evalJ, ← iha.2]
    exact neg_jetOf _ iha.1 v
  | powc a p iha =>
    simp only [evalD, evalJ, ← iha.2]
    exact pow_jetOf _ iha.1 p v
  | exp a iha =>
    simp only [evalD, evalJ, ← iha.2]
    exact scaleL_jetOf _ iha.1 _ _ v
  | log a iha =>
    simp only [evalD, evalJ, ← iha.2]
    exact scaleL_jetOf _ iha.1 _ _ v
  | ncdf a iha =>
    simp only [evalD, evalJ, ← iha.2, ← normPdf_real]
    exact scaleL_jetOf _ iha.1 _ _ v
  | nicdf a iha =>
    simp only [evalD, evalJ, ← iha.2, ← invPdf_real]
    exact scaleL_jetOf _ iha.1 _ _ v
  | abs a iha =>
    obtain ⟨wa, ja⟩ := iha
    simp only [evalD, evalJ, ← ja, Dual.abs, ltb_real, jetOf_fst]
    by_cases hpos : 0 < (evalD a env).real
    · rw [if_pos (decide_eq_true hpos), if_pos hpos]
      exact ⟨wa, rfl⟩
    · rw [if_neg (by simpa using hpos), if_neg hpos]
      exact scaleL_jetOf _ wa _ _ v

end Expr
end Rateslib
