/-
C05  Business-day arithmetic counts exactly the business days it says it does.
`count c a b` is the number of business days in the half-open interval `(a, b]`.
-/
import RateslibModel.Proofs.BusRange
namespace Rateslib
open DR

variable (c : DR)

/-- A non-business start date is rejected with an error. -/
theorem C05_rejects (fuel : Nat) (d n : Int) (s : Bool) (h : c.isBus d = false) :
    c.addBusDays fuel d n s = .err := by
  unfold addBusDays; simp [isNonBus, h]

/-- Adding `n ≥ 0` business days to a business day (no settlement): the result is a business day on
or after the start with exactly `n` business days in `(start, result]`. -/
theorem C05_count_pos (fuel : Nat) (d n r : Int) (hn : 0 ≤ n)
    (h : c.addBusDays fuel d n false = .ok (some r)) :
    c.isBus r = true ∧ d ≤ r ∧ c.count d r = n.natAbs := by
  obtain ⟨hd, hs⟩ := c.addBusDays_false_some fuel d n r h
  rw [if_neg (by omega)] at hs
  obtain ⟨a1, a2, a3⟩ := c.stepFwd_count fuel _ d r hs
  exact ⟨a3 hd, a1, a2⟩

/-- Mirror image for `n < 0`: exactly `|n|` business days in `[result, start)`. -/
theorem C05_count_neg (fuel : Nat) (d n r : Int) (hn : n < 0)
    (h : c.addBusDays fuel d n false = .ok (some r)) :
    c.isBus r = true ∧ r ≤ d ∧ c.count (r - 1) (d - 1) = n.natAbs := by
  obtain ⟨hd, hs⟩ := c.addBusDays_false_some fuel d n r h
  rw [if_pos hn] at hs
  obtain ⟨a1, a2, a3⟩ := c.stepBwd_count fuel _ d r hd hs
  exact ⟨a3, a1, a2⟩

/-- With settlement enforced the result is the no-settlement result moved onward, in the direction
of `n` (forward when `n = 0`), to the first eligible day (see `C04_following`/`C04_previous`). -/
theorem C05_settlement (fuel : Nat) (d n r : Int)
    (h : c.addBusDays fuel d n false = .ok (some r)) :
    c.addBusDays fuel d n true =
      .ok (if n < 0 then c.roll fuel r .p true else c.roll fuel r .f true) := by
  obtain ⟨hd, hs⟩ := c.addBusDays_false_some fuel d n r h
  rw [c.addBusDays_of_isBus fuel d n true hd]
  split at hs <;> rename_i hn
  · rw [if_pos hn, if_pos hn, hs]
    rfl
  · rw [if_neg hn, if_neg hn, hs]
    rfl

/-- Without settlement, adding `-n` afterwards returns to the start. -/
theorem C05_inverse (fuel : Nat) (d n r : Int)
    (h : c.addBusDays fuel d n false = .ok (some r)) :
    c.addBusDays fuel r (-n) false = .ok (some d) := by
  obtain ⟨hd, hs⟩ := c.addBusDays_false_some fuel d n r h
  by_cases hn : n < 0
  · rw [if_pos hn] at hs
    have hr : c.isBus r = true := (c.stepBwd_count fuel _ d r hd hs).2.2
    rw [c.addBusDays_of_isBus fuel r (-n) false hr, if_neg (by omega), Int.natAbs_neg,
      c.stepFwd_of_stepBwd fuel _ d r hd hs]
    rfl
  · rw [if_neg hn] at hs
    have hr : c.isBus r = true := (c.stepFwd_count fuel _ d r hs).2.2 hd
    rw [c.addBusDays_of_isBus fuel r (-n) false hr]
    by_cases hz : n = 0
    · subst hz
      cases hs
      rfl
    · rw [if_pos (by omega), Int.natAbs_neg, c.stepBwd_of_stepFwd fuel _ d r hd hs]
      rfl

/-- The lag rule: business start = business-day addition; otherwise roll in the direction of `n`
and count one day less (a zero lag rolls forward). -/
theorem C05_lag (fuel : Nat) (d n : Int) (s : Bool) :
    (c.isBus d = true → c.lag fuel d n s = c.addBusDays fuel d n s) ∧
    (c.isBus d = false → n = 0 → c.lag fuel d n s = .ok (c.rollFwd fuel d)) ∧
    (c.isBus d = false → 0 < n → ∀ r, c.rollFwd fuel d = some r →
        c.lag fuel d n s = c.addBusDays fuel r (n - 1) s) ∧
    (c.isBus d = false → n < 0 → ∀ r, c.rollBwd fuel d = some r →
        c.lag fuel d n s = c.addBusDays fuel r (n + 1) s) := by
  -- the inner `.unwrap()` always meets `Ok`: it is applied to `add_bus_days` from a business day
  refine ⟨fun hb => ?_, fun hb hn => ?_, fun hb hn r hr => ?_, fun hb hn r hr => ?_⟩
  · unfold lag
    rw [if_pos hb, c.addBusDays_of_isBus fuel d n s hb]
  · unfold lag
    simp [hb, hn]
  · unfold lag
    rw [if_neg (by simp [hb]), if_neg (by omega), if_neg (by omega), hr]
    simp only
    rw [c.addBusDays_of_isBus fuel r (n - 1) s ((c.rollFwd_eq_some fuel d r).1 hr).2.2.1]
  · unfold lag
    rw [if_neg (by simp [hb]), if_neg (by omega), if_pos hn, hr]
    simp only
    rw [c.addBusDays_of_isBus fuel r (n + 1) s ((c.rollBwd_eq_some fuel d r).1 hr).2.2.1]

/-- The business-date range is exactly the business days of the calendar-date range, in order. -/
theorem C05_range (fuel : Nat) (s e : Int) (l : List Int)
    (h : c.busDateRange fuel s e = .ok (some l)) :
    l = (calDateRange s e).filter c.isBus := by
  unfold busDateRange at h
  by_cases hb : (c.isNonBus s || c.isNonBus e) = true
  · rw [if_pos hb] at h; cases h
  · rw [if_neg hb] at h
    injection h with h
    have hs : c.isBus s = true := by
      simp only [Bool.or_eq_true, not_or, isNonBus] at hb
      simpa using hb.1
    simpa using c.busRangeLoop_spec fuel e _ s [] l hs h

/-- …and a range whose start or end is not a business day is rejected. -/
theorem C05_range_rejects (fuel : Nat) (s e : Int) (h : c.isBus s = false ∨ c.isBus e = false) :
    c.busDateRange fuel s e = .err := by
  unfold busDateRange
  rcases h with h | h <;> simp [isNonBus, h]

/-- Calendar-day addition is the shifted date followed by adjustment, for every day count. -/
theorem C05_add_days (fuel : Nat) (d n : Int) (m : Modifier) (s : Bool) :
    c.addDays fuel d n m s = .ok (c.roll fuel (d + n) m s) := by
  unfold addDays
  split
  · congr 2; omega
  · rfl

/-! Non-vacuity -/
def exCal5 : DR := (Cal.toDR ⟨fun w => w == 5 || w == 6, fun d => d == 19811 || d == 19814⟩)
example : exCal5.addBusDays 50 19810 3 false = .ok (some 19817) := by decide
example : exCal5.count 19810 19817 = 3 := by decide
example : exCal5.addBusDays 50 19817 (-3) false = .ok (some 19810) := by decide
example : exCal5.busDateRange 50 19810 19817 = .ok (some [19810, 19815, 19816, 19817]) := by decide

end Rateslib
