/-
C06  Combined and named calendars mean the union of their parts.
-/
import RateslibModel.Model.Cal
import RateslibModel.Proofs.Basic
namespace Rateslib

/-- In a combined calendar a date is a business day exactly when it is a business day in every
member calendar. -/
theorem C06_bus (u : UnionCal) (d : Int) :
    u.toDR.isBus d = true ↔ ∀ c ∈ u.calendars, c.toDR.isBus d = true := by
  simp only [DR.isBus, UnionCal.toDR, Bool.and_eq_true, Bool.not_eq_true', List.all_eq_true,
    List.any_eq_false, Bool.not_eq_true]
  exact ⟨fun ⟨h1, h2⟩ c hc => ⟨h1 c hc, h2 c hc⟩,
    fun h => ⟨fun c hc => (h c hc).1, fun c hc => (h c hc).2⟩⟩

/-- It is a valid settlement day exactly when it is a business day in every associated settlement
calendar (always, if there are none). -/
theorem C06_settle (u : UnionCal) (d : Int) :
    u.toDR.isSettlement d = true ↔ ∀ c ∈ u.settlement.getD [], c.toDR.isBus d = true := by
  simp only [UnionCal.toDR]
  cases u.settlement with
  | none => simp
  | some v =>
    simp only [Option.getD_some, Bool.not_eq_true', List.any_eq_false, DR.isNonBus, Bool.not_eq_false]

/-- `lookupAll table` is `List.mapM table`, written out -/
theorem lookupAll_eq_mapM (table : String → Option Cal) : ∀ ns : List String, lookupAll table ns = ns.mapM table
  | [] => rfl
  | n :: ns => by
    rw [lookupAll, lookupAll_eq_mapM table ns, List.mapM_cons]
    cases table n <;> cases ns.mapM table <;> rfl

theorem lookupAll_eq_some (table : String → Option Cal) (ns : List String) (cs : List Cal) :
    lookupAll table ns = some cs ↔ ns.map table = cs.map some :=
  lookupAll_eq_mapM table ns ▸ mapM_eq_some_iff table ns cs

/-- A name with no pipe is the union of the looked-up parts, no settlement calendars; the name is
interpreted regardless of letter case (only `lowerStr name` is consulted). -/
theorem C06_named_members (table : String → Option Cal) (name p0 : String) (cs : List Cal)
    (hs : (lowerStr name).splitOn "|" = [p0]) (hp : (p0.splitOn ",").map table = cs.map some) :
    namedTryNew table name = .ok (lowerStr name, ⟨cs, none⟩) := by
  unfold namedTryNew
  simp only [hs, parseCals, (lookupAll_eq_some table _ cs).2 hp]

/-- A name `members|settlement` is the union of the members with the looked-up settlement calendars. -/
theorem C06_named_settlement (table : String → Option Cal) (name p0 p1 : String) (cs ss : List Cal)
    (hs : (lowerStr name).splitOn "|" = [p0, p1])
    (hp0 : (p0.splitOn ",").map table = cs.map some) (hp1 : (p1.splitOn ",").map table = ss.map some) :
    namedTryNew table name = .ok (lowerStr name, ⟨cs, some ss⟩) := by
  unfold namedTryNew
  simp only [hs, parseCals, (lookupAll_eq_some table _ cs).2 hp0, (lookupAll_eq_some table _ ss).2 hp1]

/-- Converse: whatever is accepted is such a union of looked-up parts. -/
theorem C06_named_is_union (table : String → Option Cal) (name n : String) (u : UnionCal)
    (h : namedTryNew table name = .ok (n, u)) :
    n = lowerStr name ∧
    ((∃ p0, (lowerStr name).splitOn "|" = [p0] ∧ (p0.splitOn ",").map table = u.calendars.map some
        ∧ u.settlement = none) ∨
     (∃ p0 p1 ss, (lowerStr name).splitOn "|" = [p0, p1] ∧ (p0.splitOn ",").map table = u.calendars.map some
        ∧ u.settlement = some ss ∧ (p1.splitOn ",").map table = ss.map some)) := by
  simp only [namedTryNew] at h
  split at h
  · rename_i p0 hs
    simp only [parseCals] at h
    cases hl : lookupAll table (p0.splitOn ",") with
    | none => rw [hl] at h; cases h
    | some cs =>
      rw [hl] at h
      injection h with h; injection h with h1 h2; subst h1; subst h2
      exact ⟨rfl, Or.inl ⟨p0, hs, (lookupAll_eq_some table _ cs).1 hl, rfl⟩⟩
  · rename_i p0 p1 hs
    simp only [parseCals] at h
    cases hl : lookupAll table (p0.splitOn ",") with
    | none => rw [hl] at h; cases h
    | some cs =>
      rw [hl] at h
      cases hl1 : lookupAll table (p1.splitOn ",") with
      | none => rw [hl1] at h; cases h
      | some ss =>
        rw [hl1] at h
        injection h with h; injection h with h1 h2; subst h1; subst h2
        exact ⟨rfl, Or.inr ⟨p0, p1, ss, hs, (lookupAll_eq_some table _ cs).1 hl, rfl,
          (lookupAll_eq_some table _ ss).1 hl1⟩⟩
  · cases h

/-- More than one '|' is reported as an error. -/
theorem C06_error_pipes (table : String → Option Cal) (name : String)
    (h : ((lowerStr name).splitOn "|").length > 2) : namedTryNew table name = .err := by
  simp only [namedTryNew]
  split
  · rename_i hs; rw [hs] at h; simp at h
  · rename_i hs; rw [hs] at h; simp at h
  · rfl

/-- An unknown name in any position is reported as an error. -/
theorem C06_error_unknown (table : String → Option Cal) (name part nm : String)
    (hp : part ∈ (lowerStr name).splitOn "|") (hn : nm ∈ part.splitOn ",") (hu : table nm = none) :
    namedTryNew table name = .err := by
  have key : ∀ p, nm ∈ p.splitOn "," → parseCals table p = none := by
    intro p hmem
    cases hl : parseCals table p with
    | none => rfl
    | some cs =>
      have := (lookupAll_eq_some table _ cs).1 hl
      have hm : table nm ∈ (p.splitOn ",").map table := List.mem_map.2 ⟨nm, hmem, rfl⟩
      rw [this, hu] at hm
      simp at hm
  simp only [namedTryNew]
  split
  · rename_i p0 hs
    rw [hs] at hp; simp at hp; subst hp
    simp [key _ hn]
  · rename_i p0 p1 hs
    rw [hs] at hp; simp at hp
    rcases hp with hp | hp
    · subst hp; simp [key _ hn]
    · subst hp
      simp only [key _ hn]
      cases parseCals table p0 <;> rfl
  · rfl

theorem calDateRange_mem (s e x : Int) : x ∈ calDateRange s e ↔ s ≤ x ∧ x ≤ e := by
  unfold calDateRange
  simp only [List.mem_map, List.mem_range]
  constructor
  · rintro ⟨i, hi, rfl⟩; omega
  · rintro ⟨h1, h2⟩; exact ⟨(x - s).toNat, by omega, by omega⟩

/-- A combined or named calendar compares equal to a calendar of any kind exactly when the two
agree on every business day and settlement day of the supported range 1970-01-01..2200-12-31. -/
theorem C06_eq (a b : DR) :
    drEq a b = true ↔ ∀ d, 0 ≤ d → d ≤ 84370 →
      (a.isBus d = b.isBus d ∧ a.isSettlement d = b.isSettlement d) := by
  unfold drEq
  rw [List.all_eq_true]
  simp only [calDateRange_mem, eqLo, eqHi, Bool.and_eq_true, beq_iff_eq, and_imp]

/-! Non-vacuity.  `String.splitOn`/`toLower` do not reduce in the kernel, so the hypotheses of the
`C06_named_*` theorems are exhibited by the correspondence run instead (every accepted name of the
generated stream is an instance: the compiled model evaluates exactly these definitions).  The
predicates themselves are exhibited here on concrete calendars. -/
def exA : Cal := ⟨fun w => w == 5 || w == 6, fun d => d == 3⟩
def exB : Cal := ⟨fun w => w == 6, fun d => d == 4⟩
example : (UnionCal.toDR ⟨[exA, exB], some [exB]⟩).isBus 5 = true := by decide
example : (UnionCal.toDR ⟨[exA, exB], some [exB]⟩).isBus 4 = false := by decide
example : (UnionCal.toDR ⟨[exA], some [exB]⟩).isSettlement 4 = false := by decide
example : lookupAll (fun _ => some exA) ["x", "y"] = some [exA, exA] := rfl

end Rateslib
