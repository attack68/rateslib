/-
C19  Ordering, sign, remainder, sums and identities are coherent with the value.
-/
import RateslibModel.Proofs.DualOps
import Mathlib.Algebra.Field.Defs
namespace Rateslib
open Dual

section Generic
variable {α : Type} [Add α] [Sub α] [Mul α] [Div α] [Neg α] [OfNat α 0] [OfNat α 1] [OfNat α 2]
  [Transc α]

/-- Comparisons between dual numbers, and between a dual number and a float, depend only on the
values and agree with the float comparison (every scalar type, hence f64 itself). -/
theorem C19_ord (a b : Dual α) (x : α) (a2 b2 : Dual2 α) :
    Dual.lt a b = Transc.ltb a.real b.real ∧ Dual.le a b = Transc.leb a.real b.real ∧
    Dual.ltF a x = Transc.ltb a.real x ∧ Dual.fLt x b = Transc.ltb x b.real ∧
    Dual2.lt a2 b2 = Transc.ltb a2.real b2.real ∧ Dual2.le a2 b2 = Transc.leb a2.real b2.real :=
  ⟨rfl, rfl, rfl, rfl, rfl, rfl⟩

/-- Absolute value: for a positive value nothing changes; otherwise value, gradient and Hessian are
all multiplied by −1 together (array for array). -/
theorem C19_abs (a : Dual α) (a2 : Dual2 α) :
    (Transc.ltb 0 a.real = true → a.abs = a) ∧
    (Transc.ltb 0 a.real = false → a.abs = ⟨-a.real, a.vars, a.dual.map (-1 * ·)⟩) ∧
    (Transc.ltb 0 a2.real = true → a2.abs = a2) ∧
    (Transc.ltb 0 a2.real = false →
      a2.abs = ⟨-a2.real, a2.vars, a2.dual.map (-1 * ·), a2.dual2.map (fun r => r.map (-1 * ·))⟩) := by
  refine ⟨fun h => ?_, fun h => ?_, fun h => ?_, fun h => ?_⟩
  · simp [Dual.abs, h]
  · simp [Dual.abs, h, vscaleL]
  · simp [Dual2.abs, h]
  · simp [Dual2.abs, h, vscaleL, mscaleL]

/-- Summing a sequence equals adding left to right from the variable-free zero. -/
theorem C19_sum (xs : List (Dual α)) (ys : List (Dual2 α)) :
    Dual.sum xs = xs.foldl (fun acc x => Dual.add false acc x) ⟨0, [], []⟩ ∧
    Dual2.sum ys = ys.foldl (fun acc x => Dual2.add false acc x) ⟨0, [], [], []⟩ :=
  ⟨rfl, rfl⟩

/-- The remainder is defined as `a − trunc(a.real / b.real) · b` for dual operands… -/
theorem C19_rem_def (p : Bool) (a b : Dual α) (a2 b2 : Dual2 α) :
    Dual.rem p a b = Dual.sub p a (Dual.fMul (Transc.trunc (a.real / b.real)) b) ∧
    Dual2.rem p a2 b2 = Dual2.sub p a2 (Dual2.mulF b2 (Transc.trunc (a2.real / b2.real))) :=
  ⟨rfl, rfl⟩

/-- …and a float divisor leaves the derivatives unchanged (the truncated quotient is locally
constant), the value being the float remainder. -/
theorem C19_rem_float (a : Dual α) (x : α) :
    Dual.remF a x = ⟨Transc.fmod a.real x, a.vars, a.dual⟩ := rfl

end Generic

section Field
variable {α : Type} [Field α] [Transc α]

/-- `a % b = a − q·b` with `q = trunc(a.real / b.real)`, in value and in every derivative, whatever
the layouts of `a` and `b`. -/
theorem C19_rem (p : Bool) (a b : Dual α) (ha : a.WF) (hb : b.WF) (hp : p = true → a.vars = b.vars)
    (n : String) :
    (Dual.rem p a b).real = a.real - Transc.trunc (a.real / b.real) * b.real ∧
    den (Dual.rem p a b) n = den a n - Transc.trunc (a.real / b.real) * den b n := by
  set q := Transc.trunc (a.real / b.real)
  have hqb : (Dual.fMul q b).WF := wf_scaleL b q _ hb
  have S := sub_spec p a (Dual.fMul q b) ha hqb hp
  have hd : den (Dual.fMul q b) n = q * den b n := den_scaleL b q _ n
  refine ⟨?_, ?_⟩
  · show (Dual.sub p a (Dual.fMul q b)).real = _
    rw [S.real]
    exact congrArg (a.real - ·) (mul_comm b.real q)
  · show den (Dual.sub p a (Dual.fMul q b)) n = _
    rw [S.den n, hd]

/-- The zero and one elements are neutral for addition and multiplication (name by name). -/
theorem C19_neutral (a : Dual α) (ha : a.WF) (n : String) :
    ((Dual.add false (Dual.new 0 []) a).real = a.real ∧ den (Dual.add false (Dual.new 0 []) a) n = den a n) ∧
    ((Dual.add false a (Dual.new 0 [])).real = a.real ∧ den (Dual.add false a (Dual.new 0 [])) n = den a n) ∧
    ((Dual.mul false (Dual.new 1 []) a).real = a.real ∧ den (Dual.mul false (Dual.new 1 []) a) n = den a n) ∧
    ((Dual.mul false a (Dual.new 1 [])).real = a.real ∧ den (Dual.mul false a (Dual.new 1 [])) n = den a n) := by
  have hz : ∀ f : α, den (Dual.new f []) n = 0 := fun f => Dual.den_new_nil f n
  have hr : ∀ f : α, (Dual.new f []).real = f := fun _ => rfl
  have A1 := add_spec false (Dual.new 0 []) a (Dual.new_wf 0 []) ha (by simp)
  have A2 := add_spec false a (Dual.new 0 []) ha (Dual.new_wf 0 []) (by simp)
  have M1 := mul_spec false (Dual.new 1 []) a (Dual.new_wf 1 []) ha (by simp)
  have M2 := mul_spec false a (Dual.new 1 []) ha (Dual.new_wf 1 []) (by simp)
  refine ⟨⟨?_, ?_⟩, ⟨?_, ?_⟩, ⟨?_, ?_⟩, ⟨?_, ?_⟩⟩
  · rw [A1.real, hr, zero_add]
  · rw [A1.den, hz, zero_add]
  · rw [A2.real, hr, add_zero]
  · rw [A2.den, hz, add_zero]
  · rw [M1.real, hr, one_mul]
  · rw [M1.den, hz, hr, zero_mul, zero_add, mul_one]
  · rw [M2.real, hr, mul_one]
  · rw [M2.den, hz, hr, mul_one, zero_mul, add_zero]

end Field

end Rateslib
