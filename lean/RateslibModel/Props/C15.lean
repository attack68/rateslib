/-
C15  A solved spline reproduces data, end conditions and polynomials, with exact AD.

COLLOCATION (over any field, with the arithmetic of the f64 code path): after `csolve` the spline meets every
collocation condition — interior data points and the two derivative end conditions — whenever the
elimination never divides by zero (`PivotsGood`, which non-singularity of the collocation matrix
guarantees, `C13_nonsingular`; Schoenberg–Whitney is a hypothesis); mismatched site counts are errors;
evaluating before solving is an error.
POLYNOMIAL REPRODUCTION (`C15_polynomials_are_splines`, `C15_polynomial_reproduction`; Proofs/Marsden.lean,
Proofs/SplineRepro.lean): by Marsden's identity every polynomial of degree below the order is a spline on
the whole domain, and — since a system whose elimination meets no zero pivot has exactly one solution
(`C15_solver_complete`) — a spline solved on data taken from such a polynomial (values at interior sites,
the prescribed derivatives at the end sites) equals it, with ALL derivatives, everywhere in the domain,
knots and both end points included.
DERIVATIVES OF THE SPLINE (`C15_spline_derivative`, `C15_spline_derivative_right_end`): the order-`(m+1)`
evaluation is the right derivative of the order-`m` evaluation (left derivative at the right end point).
DUAL-NUMBER ABSCISSAE (`C15_dual_abscissa`, `C15_dual2_abscissa`, `C15_dual_abscissa_dual_coeffs`,
`C15_dual2_abscissa_dual2_coeffs`): value = plain evaluation; first-order sensitivities `S'(x)·∂x`;
stored second-order sensitivities `S'(x)·½∂²x + ½S''(x)·∂x∂x`; with dual-number coefficients additionally the
product rule (first order by names; second order as 2-jets along every direction).
DATA SENSITIVITIES (`C15_data_sensitivity`, `C15_data_value`, `C15_data_sensitivity2`): a spline solved on
list-level dual-number data has, at every abscissa and derivative order, a sensitivity to each variable name
equal to the spline solved on the data's sensitivities to that name (so, with one tag per datum, the
unit-data spline), a value equal to the spline solved on the data's values, and (second-order data) second
sensitivities equal to the spline solved on the data's second sensitivities.
LEAST SQUARES (`C15_polynomial_reproduction_lsq`): with at least as many sites as coefficients and least squares
allowed, the normal equations built from polynomial data are solved by Marsden's coefficients, so — full
column rank, i.e. no zero pivot in THEIR elimination — the solved spline again equals the polynomial with all
derivatives.  `C15_polynomial_reproduction_unique`: the same from UNIQUENESS of the interpolation problem alone
(a solution exists — Marsden's — and a uniquely solvable system meets no zero pivot).
-/
import RateslibModel.Proofs.FSolve
import RateslibModel.Proofs.GaussPivot
import RateslibModel.Proofs.FLinearInst
import RateslibModel.Proofs.SplineRepro
import RateslibModel.Proofs.Jet2Ring
namespace Rateslib
open Finset

section Field
variable {K : Type} [Field K] [Transc K] (ge : K → K → Bool)

/-- After solving (square case), the spline satisfies every collocation condition: at every interior
site `τ_j` its value is the datum `y_j`; at the first (last) site its `left_n`-th (`right_n`-th)
derivative is `y_0` (`y_last`).  Hypothesis: the elimination on the collocation matrix never meets a
zero pivot. -/
theorem C15_collocation (k : Nat) (t : List K) (tau y : List K) (leftN rightN : Nat)
    (hlen : tau.length = t.length - k) (hy : tau.length = y.length)
    (hp : PivotsGood ge (t.length - k) (List.range (t.length - k))
      ⟨bsplMatrix k t (t.length - k) tau leftN rightN, fun i => y.getD i 0⟩)
    (j : Nat) (hj : j < t.length - k) :
    ∑ i ∈ range (t.length - k),
        bspldnev t (tau.getD j 0) (rowOrder tau.length leftN rightN j) i k none *
        (@fdsolve21 K K (ringLinOps ge) fieldModOps _ (t.length - k)
          ⟨bsplMatrix k t (t.length - k) tau leftN rightN, fun i => y.getD i 0⟩) i
      = y.getD j 0 := by
  rw [fdsolve21_eq]
  have h := dsolve21_sound ge (t.length - k) (toSys ⟨bsplMatrix k t (t.length - k) tau leftN rightN,
    fun i => y.getD i 0⟩) hp j hj
  unfold rowDot at h
  simp only [toSys, bsplMatrix_row] at h
  exact h

end Field

section Errors
variable {α : Type} [Add α] [Sub α] [Mul α] [Div α] [Neg α] [OfNat α 0] [OfNat α 1] [OfNat α 2]
  [Transc α] {τ : Type} [ModOps α τ]

/-- Mismatched site counts are reported as errors: fewer or more sites than coefficients without
least squares, fewer sites than coefficients even with it, or data of another length. -/
theorem C15_len_errors (s : PPSpline α τ) (tau : List α) (y : List τ) (ln rn : Nat) (lsq : Bool) :
    (tau.length ≠ s.n → lsq = false → s.csolve tau y ln rn lsq = none) ∧
    (tau.length < s.n → s.csolve tau y ln rn lsq = none) ∧
    (tau.length ≠ y.length → s.csolve tau y ln rn lsq = none) := by
  simp only [csolve_eq]
  refine ⟨fun h1 h2 => if_neg ?_, fun h1 => if_neg ?_, fun h1 => if_neg fun h => h1 h.2⟩
  · rintro ⟨h | ⟨h, _⟩, _⟩
    · exact h1 h
    · rw [h2] at h; cases h
  · rintro ⟨h | ⟨_, h⟩, _⟩
    · omega
    · omega

/-- Evaluating a spline that has not been solved is an error. -/
theorem C15_unsolved_error (s : PPSpline α τ) (x : α) (m : Nat) (h : s.c = none) : s.ppdnev x m = none := by
  simp [PPSpline.ppdnev, h]

/-- Solving stores exactly `n` coefficients and keeps order and knots. -/
theorem C15_csolve_shape (s s' : PPSpline α τ) (tau : List α) (y : List τ) (ln rn : Nat) (lsq : Bool)
    (h : s.csolve tau y ln rn lsq = some s') :
    s'.k = s.k ∧ s'.t = s.t ∧ ∃ c, s'.c = some c ∧ c.length = s.n := by
  rw [csolve_eq] at h
  split at h
  · cases h
    exact ⟨rfl, rfl, _, rfl, by simp⟩
  · cases h

end Errors

section Abscissa
open Rateslib.Dual

/-- THE SPLINE'S DERIVATIVES, from the right: strictly before the last knot, the order-`(m+1)` evaluation of
a solved spline is the right derivative of its order-`m` evaluation. -/
theorem C15_spline_derivative (s : PPSpline ℝ ℝ) (c : List ℝ) (hc : s.c = some c) (hs : SortedKnots s.t)
    (x : ℝ) (hx : x < knot s.t (s.t.length - 1)) (m : Nat) :
    ∃ (f : ℝ → ℝ) (f' : ℝ), (∀ y, s.ppdnev y m = some (f y)) ∧ s.ppdnev x (m + 1) = some f' ∧
      HasDerivWithinAt f f' (Set.Ici x) x :=
  ⟨_, _, fun y => ppdnev_real s c hc y m, ppdnev_real s c hc x (m + 1), splineFn_right s.t hs s.k _ m x hx⟩

/-- … and from the left at the right end point. -/
theorem C15_spline_derivative_right_end (s : PPSpline ℝ ℝ) (c : List ℝ) (hc : s.c = some c)
    (H : RightEnd s.t s.k) (m : Nat) :
    ∃ (f : ℝ → ℝ) (f' : ℝ), (∀ y, s.ppdnev y m = some (f y)) ∧
      s.ppdnev (knot s.t (s.t.length - 1)) (m + 1) = some f' ∧
      HasDerivWithinAt f f' (Set.Iic (knot s.t (s.t.length - 1))) (knot s.t (s.t.length - 1)) :=
  ⟨_, _, fun y => ppdnev_real s c hc y m, ppdnev_real s c hc _ (m + 1), splineFn_left s.t s.k H _ m⟩

/-- EVALUATION AT A DUAL-NUMBER ABSCISSA (float coefficients, first order, any layout of the abscissa): the
result is well formed, its value is the plain evaluation at the value of the abscissa, and its sensitivity
to every variable name is the spline's own next derivative there times the abscissa's sensitivity. -/
theorem C15_dual_abscissa (s : PPSpline ℝ ℝ) (x : Dual ℝ) (hx : x.WF) (m : Nat) (v : String) :
    (∀ d, ppdnevDualF s x m = some d → d.WF) ∧
    (ppdnevDualF s x m).map (fun d => d.real) = s.ppdnev x.real m ∧
    (ppdnevDualF s x m).map (fun d => den d v) = (s.ppdnev x.real (m + 1)).map (fun S1 => S1 * den x v) := by
  cases hc : s.c with
  | none => simp [ppdnevDualF, PPSpline.ppdnev, hc]
  | some c =>
    have hform : ppdnevDualF s x m = some (fdotOver (α := ℝ) (σ := Dual ℝ) (List.range s.n)
        (fun i => c.getD i 0) (fun i => bspldnevDual s.t x i s.k m)) := by
      simp only [ppdnevDualF, hc, Option.map_some]; rfl
    have hg : ∀ i, (bspldnevDual s.t x i s.k m).WF := fun i => Dual.wf_scaleL x _ _ hx
    have h1 := fdot_hom (K := ℝ) real_modHom (fun i => c.getD i 0) (fun i => bspldnevDual s.t x i s.k m)
      (fun i => bspldnev s.t x.real m i s.k none) (fun i => ⟨hg i, rfl⟩) (List.range s.n)
    have h2 := fdot_hom (K := ℝ) (den_modHom v) (fun i => c.getD i 0) (fun i => bspldnevDual s.t x i s.k m)
      (fun i => bspldnev s.t x.real (m + 1) i s.k none * den x v)
      (fun i => ⟨hg i, den_scaleL x _ _ v⟩) (List.range s.n)
    rw [hform, ppdnev_real s c hc, ppdnev_real s c hc]
    refine ⟨fun d hd => ?_, ?_, ?_⟩
    · cases hd; exact h1.1
    · simp only [Option.map_some]; rw [h1.2, fdot_real_comm]
    · simp only [Option.map_some]; rw [h2.2, fdot_real_scale]

/-- SECOND ORDER: value, first-order sensitivities `S'(x)·∂x`, and stored (half) second-order sensitivities
`S'(x)·½∂²x + ½S''(x)·∂x∂x` — the spline's own first and second derivatives. -/
theorem C15_dual2_abscissa (s : PPSpline ℝ ℝ) (x : Dual2 ℝ) (hx : x.WF) (m : Nat) (v w : String) :
    (∀ d, ppdnevDual2F s x m = some d → d.WF) ∧
    (ppdnevDual2F s x m).map (fun d => d.real) = s.ppdnev x.real m ∧
    (ppdnevDual2F s x m).map (fun d => Dual2.den d v)
      = (s.ppdnev x.real (m + 1)).map (fun S1 => S1 * Dual2.den x v) ∧
    (∀ S1 S2, s.ppdnev x.real (m + 1) = some S1 → s.ppdnev x.real (m + 2) = some S2 →
      (ppdnevDual2F s x m).map (fun d => Dual2.den2 d v w)
        = some (S1 * Dual2.den2 x v w + S2 * (1 / 2 * (Dual2.den x v * Dual2.den x w)))) := by
  cases hc : s.c with
  | none => simp [ppdnevDual2F, PPSpline.ppdnev, hc]
  | some c =>
    have hform : ppdnevDual2F s x m = some (fdotOver (α := ℝ) (σ := Dual2 ℝ) (List.range s.n)
        (fun i => c.getD i 0) (fun i => bspldnevDual2 s.t x i s.k m)) := by
      simp only [ppdnevDual2F, hc, Option.map_some]; rfl
    have hsp : ∀ i, ChainSpec x (bspldnevDual2 s.t x i s.k m) (bspldnev s.t x.real m i s.k none)
        (bspldnev s.t x.real (m + 1) i s.k none) (half * bspldnev s.t x.real (m + 2) i s.k none) :=
      fun i => Dual2.chain_shape_spec x hx _ _ _
    have h1 := fdot_hom (K := ℝ) real_modHom2 (fun i => c.getD i 0) (fun i => bspldnevDual2 s.t x i s.k m)
      (fun i => bspldnev s.t x.real m i s.k none) (fun i => ⟨(hsp i).wf, (hsp i).real⟩) (List.range s.n)
    have h2 := fdot_hom (K := ℝ) (den_modHom2 v) (fun i => c.getD i 0) (fun i => bspldnevDual2 s.t x i s.k m)
      (fun i => bspldnev s.t x.real (m + 1) i s.k none * Dual2.den x v)
      (fun i => ⟨(hsp i).wf, (hsp i).den v⟩) (List.range s.n)
    have h3 := fdot_hom (K := ℝ) (den2_modHom v w) (fun i => c.getD i 0)
      (fun i => bspldnevDual2 s.t x i s.k m)
      (fun i => bspldnev s.t x.real (m + 1) i s.k none * Dual2.den2 x v w
        + bspldnev s.t x.real (m + 2) i s.k none * (1 / 2 * (Dual2.den x v * Dual2.den x w)))
      (fun i => ⟨(hsp i).wf, by rw [(hsp i).den2 v w]; simp only [half]; ring⟩) (List.range s.n)
    rw [hform, ppdnev_real s c hc, ppdnev_real s c hc, ppdnev_real s c hc]
    refine ⟨fun d hd => ?_, ?_, ?_, ?_⟩
    · cases hd; exact h1.1
    · simp only [Option.map_some]; rw [h1.2, fdot_real_comm]
    · simp only [Option.map_some]; rw [h2.2, fdot_real_scale]
    · intro S1 S2 e1 e2
      cases e1; cases e2
      simp only [Option.map_some]; rw [h3.2, fdot_real_lin2]

/-- Dual-number coefficients AND dual-number abscissa (first order): product rule and chain rule together —
the sensitivity to `v` is the evaluation of the spline whose coefficients are the coefficients'
sensitivities to `v`, plus the value-spline's next derivative times the abscissa's sensitivity to `v`. -/
theorem C15_dual_abscissa_dual_coeffs (s : PPSpline ℝ (Dual ℝ)) (c : List (Dual ℝ)) (hc : s.c = some c)
    (hwf : ∀ d ∈ c, d.WF) (x : Dual ℝ) (hx : x.WF) (m : Nat) (v : String) :
    ∃ d, ppdnevDualD s x m = some d ∧ d.WF ∧
      some d.real = (⟨s.k, s.t, some (c.map fun d => d.real)⟩ : PPSpline ℝ ℝ).ppdnev x.real m ∧
      ∃ A B, (⟨s.k, s.t, some (c.map fun d => den d v)⟩ : PPSpline ℝ ℝ).ppdnev x.real m = some A ∧
        (⟨s.k, s.t, some (c.map fun d => d.real)⟩ : PPSpline ℝ ℝ).ppdnev x.real (m + 1) = some B ∧
        den d v = A + B * den x v := by
  have hz : (Dual.new (0 : ℝ) []).WF := Dual.new_wf 0 []
  -- the (value, sensitivity to `v`) pair is a homomorphism into the dual numbers ℝ[ε]/(ε²)
  have H := @dot_hom _ _ linOpsDual linOpsT _ _ (jetT_linHom v)
    (fun i => c.getD i (Dual.new 0 [])) (fun i => bspldnevDual s.t x i s.k m) _ _
    (fun i => ⟨getD_forall hz hwf i, rfl⟩) (fun i => ⟨Dual.wf_scaleL x _ _ hx, rfl⟩) (List.range s.n)
  rw [dotOver_range geT] at H
  have e1 : ∀ i, (c.map fun d : Dual ℝ => d.real).getD i 0 = (c.getD i (Dual.new 0 [])).real :=
    fun i => getD_map_hom (fun d : Dual ℝ => d.real) (Dual.new 0 []) 0 rfl c i
  have e2 : ∀ i, (c.map fun d : Dual ℝ => den d v).getD i 0 = den (c.getD i (Dual.new 0 [])) v :=
    fun i => getD_map_hom (fun d : Dual ℝ => den d v) (Dual.new 0 []) 0 (Dual.den_new_nil 0 v) c i
  refine ⟨_, by simp only [ppdnevDualD, hc, Option.map_some]; rfl, H.1, ?_, _, _,
    ppdnev_real _ _ rfl _ _, ppdnev_real _ _ rfl _ _, ?_⟩
  · rw [ppdnev_real _ _ rfl, ← jetT_fst v, H.2, TrivSqZeroExt.fst_sum]
    refine congrArg some (Finset.sum_congr rfl fun i _ => ?_)
    rw [e1, TrivSqZeroExt.fst_mul, jetT_fst, jetT_fst, mul_comm]; rfl
  · rw [← jetT_snd v, H.2, TrivSqZeroExt.snd_sum]
    show _ = ∑ i ∈ Finset.range s.n, _ + (∑ i ∈ Finset.range s.n, _) * _
    rw [Finset.sum_mul, ← Finset.sum_add_distrib]
    refine Finset.sum_congr rfl fun i _ => ?_
    have hden : den (bspldnevDual s.t x i s.k m) v = bspldnev s.t x.real (m + 1) i s.k none * den x v :=
      den_scaleL x _ _ v
    rw [e1, e2, TrivSqZeroExt.snd_mul, jetT_fst, jetT_fst, jetT_snd, jetT_snd, hden]
    show _ * _ + _ * bspldnev s.t x.real m i s.k none = bspldnev s.t x.real m i s.k none * _ + _
    ring

open Expr in
/-- Second-order coefficients AND second-order abscissa: along every direction `α·e_v + β·e_w` of the
variable space, the 2-jet of the result is the spline formula `Σ c_i · B_i(x)` evaluated in the ring of
2-jets `ℝ[ε]/(ε³)` at the 2-jets of the coefficients and of the abscissa (`basisJet`: Taylor to second order
with the spline's own first and second derivatives). -/
theorem C15_dual2_abscissa_dual2_coeffs (s : PPSpline ℝ (Dual2 ℝ)) (c : List (Dual2 ℝ)) (hc : s.c = some c)
    (hwf : ∀ d ∈ c, d.WF) (x : Dual2 ℝ) (hx : x.WF) (m : Nat) (α β : ℝ) (v w : String) :
    ∃ d, ppdnevDual2D2 s x m = some d ∧ d.WF ∧
      dirJet α β v w d
        = ((List.range s.n).map fun i =>
            dirJet α β v w (c.getD i (Dual2.new 0 [])) * basisJet s.t s.k m i (dirJet α β v w x)).sum := by
  have hz : (Dual2.new (0 : ℝ) []).WF := (Dual2.new_const_spec 0).1
  have hcw : ∀ i, (c.getD i (Dual2.new 0 [])).WF := getD_forall hz hwf
  have hform : ppdnevDual2D2 s x m = some (@dotOver (Dual2 ℝ) linOpsDual2 (List.range s.n)
      (fun i => c.getD i (Dual2.new 0 [])) (fun i => bspldnevDual2 s.t x i s.k m)) := by
    simp only [ppdnevDual2D2, hc, Option.map_some]; rfl
  have H := @dot_hom _ _ linOpsDual2 linOpsJ _ _ (dirJet_linHom α β v w)
    (fun i => c.getD i (Dual2.new 0 [])) (fun i => bspldnevDual2 s.t x i s.k m)
    (fun i => dirJet α β v w (c.getD i (Dual2.new 0 [])))
    (fun i => basisJet s.t s.k m i (dirJet α β v w x))
    (fun i => ⟨hcw i, rfl⟩) (fun i => bspldnevDual2_dirJet s.t x hx i s.k m α β v w) (List.range s.n)
  refine ⟨_, hform, H.1, ?_⟩
  rw [H.2]
  exact dotOver_eq geJ _ _ _

end Abscissa

section Reproduction
open Polynomial

/-- COMPLETENESS OF THE SOLVER (any field): if the elimination meets no zero pivot, EVERY solution of the
system is the returned one. -/
theorem C15_solver_complete {K : Type} [Field K] (ge : K → K → Bool) (n : Nat) (s : Sys K)
    (hp : PivotsGood ge n (List.range n) s) (x : Nat → K) (hx : Sol n s x) :
    ∀ c, c < n → x c = @dsolve21 K (ringLinOps ge) n s c :=
  dsolve21_unique ge n s hp x hx

/-- EVERY POLYNOMIAL OF DEGREE BELOW THE ORDER IS A SPLINE, WITH ALL ITS DERIVATIVES: with Marsden's
coefficients the model's derivative evaluation of every order `m`, anywhere in the domain — knots and both
end points included — is the `m`-th derivative of the polynomial. -/
theorem C15_polynomials_are_splines (t : List ℝ) (K : Nat) (H : RightEnd t K) (he : EndKnots t K)
    (p : ℝ[X]) (hp : p.natDegree < K) (m : Nat) (x : ℝ) (hx0 : knot t 0 ≤ x) (hx1 : x ≤ knot t (t.length - 1)) :
    (⟨K, t, some ((List.range (t.length - K)).map (marsdenCoef t K p))⟩ : PPSpline ℝ ℝ).ppdnev x m
      = some ((derivative^[m] p).eval x) :=
  ppdnev_of_marsdenCoef t K H he p hp _ (fun i hi => by rw [getD_map_range, if_pos hi]) x hx0 hx1 m

/-- POLYNOMIAL REPRODUCTION: solve a spline of order `K` (square system, sites in the domain, any end
derivative orders) on data taken from a polynomial `p` of degree below `K` — values at interior sites, the
prescribed derivatives at the two end sites.  If the elimination meets no zero pivot (non-singular
collocation matrix), the solved spline and ALL its derivatives equal `p` and its derivatives everywhere in
the domain, knots and both end points included. -/
theorem C15_polynomial_reproduction (t : List ℝ) (K : Nat) (H : RightEnd t K) (he : EndKnots t K)
    (p : ℝ[X]) (hp : p.natDegree < K) (tau : List ℝ) (l r : Nat)
    (htau : ∀ j, j < tau.length → knot t 0 ≤ tau.getD j 0 ∧ tau.getD j 0 ≤ knot t (t.length - 1))
    (y : List ℝ)
    (hy : ∀ j, j < tau.length → y.getD j 0 = (derivative^[rowOrder tau.length l r j] p).eval (tau.getD j 0))
    (hpiv : PivotsGood geR (t.length - K) (List.range (t.length - K))
      ⟨bsplMatrix K t (t.length - K) tau l r, fun i => y.getD i 0⟩)
    (s' : PPSpline ℝ ℝ) (h : (⟨K, t, none⟩ : PPSpline ℝ ℝ).csolve tau y l r false = some s') :
    ∀ (x : ℝ), knot t 0 ≤ x → x ≤ knot t (t.length - 1) → ∀ m,
      s'.ppdnev x m = some ((derivative^[m] p).eval x) := by
  rw [csolve_square] at h
  split at h
  · rename_i hc
    injection h with h
    subst h
    intro x hx0 hx1 m
    exact reproduces_of_sol t K H he p hp ⟨bsplMatrix K t (t.length - K) tau l r, fun i => y.getD i 0⟩ hpiv
      (fun j hj => marsden_solves t K H he p hp tau l r htau y hy j (by omega)) x hx0 hx1 m
  · cases h

/-- POLYNOMIAL REPRODUCTION FROM UNIQUENESS ALONE: if the interpolation problem has AT MOST ONE solution (what the
Schoenberg–Whitney conditions guarantee), no pivot of the elimination is zero — a solution exists, Marsden's, and
a uniquely solvable system never meets a zero pivot under the code's pivot rule (`C13_nonsingular`) — so the
solved spline and all its derivatives equal the polynomial's, everywhere in the domain. -/
theorem C15_polynomial_reproduction_unique (t : List ℝ) (K : Nat) (H : RightEnd t K) (he : EndKnots t K)
    (p : ℝ[X]) (hp : p.natDegree < K) (tau : List ℝ) (l r : Nat)
    (htau : ∀ j, j < tau.length → knot t 0 ≤ tau.getD j 0 ∧ tau.getD j 0 ≤ knot t (t.length - 1))
    (y : List ℝ)
    (hy : ∀ j, j < tau.length → y.getD j 0 = (derivative^[rowOrder tau.length l r j] p).eval (tau.getD j 0))
    (huniq : ∀ a b : Nat → ℝ,
      Sol (t.length - K) ⟨bsplMatrix K t (t.length - K) tau l r, fun i => y.getD i 0⟩ a →
      Sol (t.length - K) ⟨bsplMatrix K t (t.length - K) tau l r, fun i => y.getD i 0⟩ b →
      ∀ c, c < t.length - K → a c = b c)
    (s' : PPSpline ℝ ℝ) (h : (⟨K, t, none⟩ : PPSpline ℝ ℝ).csolve tau y l r false = some s') :
    ∀ (x : ℝ), knot t 0 ≤ x → x ≤ knot t (t.length - 1) → ∀ m,
      s'.ppdnev x m = some ((derivative^[m] p).eval x) := by
  have hlen : tau.length = t.length - K := by
    rw [csolve_square] at h
    split at h
    · rename_i hc; exact hc.1
    · cases h
  have hsol : Sol (t.length - K) ⟨bsplMatrix K t (t.length - K) tau l r, fun i => y.getD i 0⟩
      (marsdenCoef t K p) := fun j hj => marsden_solves t K H he p hp tau l r htau y hy j (by omega)
  have hpiv := pivotsGood_of_exists_unique (t.length - K) _ ⟨_, hsol⟩ huniq
  rw [← geR_eq_absGeK] at hpiv
  exact C15_polynomial_reproduction t K H he p hp tau l r htau y hy hpiv s' h

/-- POLYNOMIAL REPRODUCTION, LEAST-SQUARES BRANCH: at least as many sites as coefficients, least squares
allowed, data from a polynomial of degree below the order; if the elimination on the normal equations
`AᵀA c = Aᵀy` meets no zero pivot, the solved spline and all its derivatives equal the polynomial's,
everywhere in the domain. -/
theorem C15_polynomial_reproduction_lsq (t : List ℝ) (K : Nat) (H : RightEnd t K) (he : EndKnots t K)
    (p : ℝ[X]) (hp : p.natDegree < K) (tau : List ℝ) (l r : Nat)
    (htau : ∀ j, j < tau.length → knot t 0 ≤ tau.getD j 0 ∧ tau.getD j 0 ≤ knot t (t.length - 1))
    (y : List ℝ)
    (hy : ∀ j, j < tau.length → y.getD j 0 = (derivative^[rowOrder tau.length l r j] p).eval (tau.getD j 0))
    (hpiv : PivotsGood geR (t.length - K) (List.range (t.length - K))
      ⟨fun i j => ∑ q ∈ Finset.range tau.length,
          bsplMatrix K t (t.length - K) tau l r q i * bsplMatrix K t (t.length - K) tau l r q j,
       fun i => ∑ q ∈ Finset.range tau.length, bsplMatrix K t (t.length - K) tau l r q i * y.getD q 0⟩)
    (s' : PPSpline ℝ ℝ) (h : (⟨K, t, none⟩ : PPSpline ℝ ℝ).csolve tau y l r true = some s') :
    ∀ (x : ℝ), knot t 0 ≤ x → x ≤ knot t (t.length - 1) → ∀ m,
      s'.ppdnev x m = some ((derivative^[m] p).eval x) := by
  rw [csolve_lsq] at h
  split at h
  · rename_i hc
    injection h with h
    subst h
    intro x hx0 hx1 m
    set n := t.length - K
    set A := bsplMatrix K t n tau l r
    -- every row of the collocation system is satisfied by Marsden's coefficients, hence so are the normal
    -- equations
    refine reproduces_of_sol t K H he p hp ⟨_, _⟩ hpiv (fun i hi => ?_) x hx0 hx1 m
    unfold rowDot
    simp only [toSys]
    calc ∑ j ∈ Finset.range n, (∑ q ∈ Finset.range tau.length, A q i * A q j) * marsdenCoef t K p j
        = ∑ q ∈ Finset.range tau.length, A q i * ∑ j ∈ Finset.range n, A q j * marsdenCoef t K p j := by
          simp only [Finset.sum_mul, Finset.mul_sum]
          rw [Finset.sum_comm]
          exact Finset.sum_congr rfl fun q _ => Finset.sum_congr rfl fun j _ => by ring
      _ = ∑ q ∈ Finset.range tau.length, A q i * y.getD q 0 :=
          Finset.sum_congr rfl fun q hq => by
            rw [marsden_solves t K H he p hp tau l r htau y hy q (Finset.mem_range.1 hq)]
  · cases h

/-- the comparison of the theorem is the one the model's own float instance uses -/
theorem C15_geR_is_model_instance (x y : ℝ) : @LinOps.absGe ℝ linOpsScalar x y = geR x y := rfl

end Reproduction

section DataSensitivity
open Rateslib.Dual

/-- When the data are (list-level, any layout) first-order dual numbers, the solved spline evaluated at
any abscissa `x` and derivative order `m` has, for every variable name `v`, a sensitivity equal to the
value of the float spline solved on the data's sensitivities to `v`: with one tag per datum, the
sensitivity to datum `j` is the spline through the `j`-th unit data. -/
theorem C15_data_sensitivity (k : Nat) (t tau : List ℝ) (y : List (Dual ℝ)) (hy : ∀ d ∈ y, d.WF)
    (l r : Nat) (v : String) (sD : PPSpline ℝ (Dual ℝ))
    (h : (⟨k, t, none⟩ : PPSpline ℝ (Dual ℝ)).csolve tau y l r false = some sD) :
    ∃ sF : PPSpline ℝ ℝ,
      (⟨k, t, none⟩ : PPSpline ℝ ℝ).csolve tau (y.map (fun d => den d v)) l r false = some sF ∧
      ∀ x m, (sD.ppdnev x m).map (fun d => den d v) = sF.ppdnev x m :=
  spline_hom (fun d => den d v) Dual.WF (den_modHom v) k t tau y hy l r sD h

/-- … and a value equal to the float spline solved on the data's values. -/
theorem C15_data_value (k : Nat) (t tau : List ℝ) (y : List (Dual ℝ)) (hy : ∀ d ∈ y, d.WF)
    (l r : Nat) (sD : PPSpline ℝ (Dual ℝ))
    (h : (⟨k, t, none⟩ : PPSpline ℝ (Dual ℝ)).csolve tau y l r false = some sD) :
    ∃ sF : PPSpline ℝ ℝ,
      (⟨k, t, none⟩ : PPSpline ℝ ℝ).csolve tau (y.map (fun d => d.real)) l r false = some sF ∧
      ∀ x m, (sD.ppdnev x m).map (fun d => d.real) = sF.ppdnev x m :=
  spline_hom (fun d => d.real) Dual.WF real_modHom k t tau y hy l r sD h

/-- SECOND-ORDER DATA: the value, every first-order and every (stored, half) second-order sensitivity of the
evaluated spline is the float spline solved on the corresponding projection of the data. -/
theorem C15_data_sensitivity2 (k : Nat) (t tau : List ℝ) (y : List (Dual2 ℝ)) (hy : ∀ d ∈ y, d.WF)
    (l r : Nat) (v w : String) (sD : PPSpline ℝ (Dual2 ℝ))
    (h : (⟨k, t, none⟩ : PPSpline ℝ (Dual2 ℝ)).csolve tau y l r false = some sD) :
    (∃ sF : PPSpline ℝ ℝ,
      (⟨k, t, none⟩ : PPSpline ℝ ℝ).csolve tau (y.map (fun d => d.real)) l r false = some sF ∧
      ∀ x m, (sD.ppdnev x m).map (fun d => d.real) = sF.ppdnev x m) ∧
    (∃ sF : PPSpline ℝ ℝ,
      (⟨k, t, none⟩ : PPSpline ℝ ℝ).csolve tau (y.map (fun d => Dual2.den d v)) l r false = some sF ∧
      ∀ x m, (sD.ppdnev x m).map (fun d => Dual2.den d v) = sF.ppdnev x m) ∧
    (∃ sF : PPSpline ℝ ℝ,
      (⟨k, t, none⟩ : PPSpline ℝ ℝ).csolve tau (y.map (fun d => Dual2.den2 d v w)) l r false = some sF ∧
      ∀ x m, (sD.ppdnev x m).map (fun d => Dual2.den2 d v w) = sF.ppdnev x m) :=
  ⟨spline_hom _ Dual2.WF real_modHom2 k t tau y hy l r sD h,
   spline_hom _ Dual2.WF (den_modHom2 v) k t tau y hy l r sD h,
   spline_hom _ Dual2.WF (den2_modHom v w) k t tau y hy l r sD h⟩

end DataSensitivity

end Rateslib
