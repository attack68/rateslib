/-
C04  Date adjustment lands on the nearest eligible business day in its direction.
`roll fuel d m s = some r` means the implementation's loops terminate with `r`; `none` is
"fuel exhausted".  `C04_fuel_*` show a result exists whenever a business day that can settle lies within
`fuel` days in the search direction — i.e. for every calendar with a finite holiday list and a working
weekday common to all consulted calendars (take `fuel` beyond the last holiday + 7).
-/
import RateslibModel.Proofs.Roll
namespace Rateslib
open DR

variable (c : DR)

/-- 'following': the first date on or after `d` that is eligible. -/
theorem C04_following (fuel : Nat) (d r : Int) (s : Bool) (h : c.roll fuel d .f s = some r) :
    d ≤ r ∧ c.Elig s r ∧ ∀ x, d ≤ x → x < r → ¬ c.Elig s x := by
  cases s with
  | true => exact c.rollFwdSettled_some fuel d r h
  | false =>
    obtain ⟨a1, _, a3, a4⟩ := (c.rollFwd_eq_some fuel d r).1 h
    exact ⟨a1, ⟨a3, fun h => by cases h⟩, fun x h1 h2 hE => Bool.eq_false_iff.1 (a4 x h1 h2) hE.1⟩

/-- 'previous': the mirror image. -/
theorem C04_previous (fuel : Nat) (d r : Int) (s : Bool) (h : c.roll fuel d .p s = some r) :
    r ≤ d ∧ c.Elig s r ∧ ∀ x, r < x → x ≤ d → ¬ c.Elig s x := by
  rw [roll_p_neg, map_neg_eq_some] at h
  obtain ⟨h1, h2, h3⟩ := C04_following c.neg fuel (-d) (-r) s h
  exact ⟨by omega, (c.neg_Elig s r).1 h2,
    fun x hx1 hx2 hE => h3 (-x) (by omega) (by omega) ((c.neg_Elig s x).2 hE)⟩

/-- 'modified following': the following date unless it lies in a different calendar month, in which
case the previous date. -/
theorem C04_modified_following (fuel : Nat) (d : Int) (s : Bool) :
    c.roll fuel d .modF s =
      match c.roll fuel d .f s with
      | none => none
      | some n => if monthOf n = monthOf d then some n else c.roll fuel d .p s := by
  cases s
  · simp only [roll, rollModFwd]; cases c.rollFwd fuel d <;> simp
  · simp only [roll, rollFwdModSettled, if_true]; cases c.rollFwdSettled fuel d <;> simp

/-- 'modified previous': mirror image. -/
theorem C04_modified_previous (fuel : Nat) (d : Int) (s : Bool) :
    c.roll fuel d .modP s =
      match c.roll fuel d .p s with
      | none => none
      | some n => if monthOf n = monthOf d then some n else c.roll fuel d .f s := by
  cases s
  · simp only [roll, rollModBwd]; cases c.rollBwd fuel d <;> simp
  · simp only [roll, rollBwdModSettled, if_true]; cases c.rollBwdSettled fuel d <;> simp

/-- 'actual' returns the date unchanged (and ignores the settlement flag). -/
theorem C04_act (fuel : Nat) (d : Int) (s : Bool) : c.roll fuel d .act s = some d := by
  cases s <;> rfl

/-- Termination of the forward search: if some eligible day lies within `fuel` days on or after `d`,
the search returns a value (so, by `C04_following`, the first such day). -/
theorem C04_fuel_following (fuel : Nat) (d e : Int) (s : Bool) (h1 : d ≤ e) (h2 : e < d + fuel)
    (he : c.Elig true e) : ∃ r, c.roll fuel d .f s = some r :=
  c.roll_f_exists fuel d e s h1 h2 ⟨he.1, fun _ => he.2 rfl⟩

theorem C04_fuel_previous (fuel : Nat) (d e : Int) (s : Bool) (h1 : e ≤ d) (h2 : d - fuel < e)
    (he : c.Elig true e) : ∃ r, c.roll fuel d .p s = some r := by
  obtain ⟨r, hr⟩ :=
    C04_fuel_following c.neg fuel (-d) (-e) s (by omega) (by omega) ((c.neg_Elig true e).2 he)
  exact ⟨-r, by rw [roll_p_neg, hr]; rfl⟩

/-- an eligible day is the first eligible day on or after itself -/
theorem roll_f_fix (fuel : Nat) (d : Int) (s : Bool) (h : c.Elig s d) : c.roll (fuel + 1) d .f s = some d := by
  obtain ⟨r, hr⟩ := c.roll_f_exists (fuel + 1) d d s (Int.le_refl d) (by omega) h
  obtain ⟨h1, -, h3⟩ := C04_following c (fuel + 1) d r s hr
  rcases Int.lt_or_eq_of_le h1 with hlt | rfl
  · exact absurd h (h3 d (Int.le_refl d) hlt)
  · exact hr

/-- A date that is already eligible is never moved, whatever the rule. -/
theorem C04_fixed_point (fuel : Nat) (d : Int) (m : Modifier) (s : Bool) (h : c.Elig s d) :
    c.roll (fuel + 1) d m s = some d := by
  by_cases hm : m = .act
  · subst hm
    exact C04_act c _ d s
  · rcases c.roll_eq_f_or_p (fuel + 1) d s hm with e | e
    · rw [e]
      exact roll_f_fix c fuel d s h
    · rw [e, roll_p_neg, roll_f_fix c.neg fuel (-d) s ((c.neg_Elig s d).2 h), Option.map_some, Int.neg_neg]

/-- Every result of a non-'actual' rule is eligible. -/
theorem C04_result_eligible (fuel : Nat) (d r : Int) (m : Modifier) (s : Bool) (hm : m ≠ .act)
    (h : c.roll fuel d m s = some r) : c.Elig s r := by
  rcases c.roll_eq_f_or_p fuel d s hm with e | e
  · rw [e] at h
    exact (C04_following c fuel d r s h).2.1
  · rw [e] at h
    exact (C04_previous c fuel d r s h).2.1

/-- Adjusting twice equals adjusting once. -/
theorem C04_idempotent (fuel : Nat) (d r : Int) (m : Modifier) (s : Bool)
    (h : c.roll (fuel + 1) d m s = some r) : c.roll (fuel + 1) r m s = some r := by
  by_cases hm : m = .act
  · subst hm; exact C04_act c _ r s
  · exact C04_fixed_point c fuel r m s (C04_result_eligible c _ d r m s hm h)

/-- With eligible days within reach on both sides every rule terminates with a value. -/
theorem C04_total (fuel : Nat) (d e1 e2 : Int) (m : Modifier) (s : Bool)
    (h1 : d ≤ e1) (h2 : e1 < d + fuel) (he1 : c.Elig true e1)
    (h3 : e2 ≤ d) (h4 : d - fuel < e2) (he2 : c.Elig true e2) :
    ∃ r, c.roll fuel d m s = some r := by
  by_cases hm : m = .act
  · subst hm
    exact ⟨d, C04_act c fuel d s⟩
  · rcases c.roll_eq_f_or_p fuel d s hm with e | e
    · rw [e]
      exact C04_fuel_following c fuel d e1 s h1 h2 he1
    · rw [e]
      exact C04_fuel_previous c fuel d e2 s h3 h4 he2

/-! Non-vacuity: a western week with a Friday+Monday holiday cluster at a month end
(2024-03-29 = day 19811 is a Friday; Monday 2024-04-01 = 19814 is a holiday). -/
def exCal : DR := (Cal.toDR ⟨fun w => w == 5 || w == 6, fun d => d == 19811 || d == 19814⟩)
example : exCal.roll 50 19812 .f false = some 19815 := by decide
example : exCal.roll 50 19812 .modF false = some 19810 := by decide
example : exCal.Elig true 19815 := by decide
example : exCal.roll 50 19812 .modP true = some 19810 := by decide

end Rateslib
