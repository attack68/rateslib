/-
C09  An FX market built from n−1 quotes is complete and arbitrage-free.

`fill` is the model of the recursive triangulation `mut_arrays_remaining_elements`; `initArr` seeds
the matrix with the quotes and their reciprocals.  Theorems about VALUES are over an arbitrary field
`K` with the arithmetic of the f64 code path (`fieldFxOps`: `*`, `1/x`, `1`), which at `K = ℝ` is
definitionally the instance the model uses.  A quote set is described by a
*potential* `u`: every quote `(a, b, x)` has `x = u a / u b` — exactly what a tree of quotes admits.

COMPLETENESS / REJECTION (`C09_complete`, `C09_disconnected_rejected`): the triangulation returns a
result exactly when the quoted pairs CONNECT all n currencies — for n − 1 quotes that is exactly "the
quotes form a tree"; a right-count quote set with a cycle leaves some currency unconnected and is
rejected.

NO HYPOTHESIS ON POTENTIALS (`C09_tree_arbitrage_free`; Proofs/TreePotential.lean, Proofs/FXTree.lean): `n −
1` edges that connect `n` vertices form a tree, and on a tree every assignment of group elements to the
edges is a coboundary (union–find over the edge list: classes = n − merging edges; connectedness leaves one
class, so every edge merged and fits the potential).  Hence, whenever the triangulation returns a result for
`n − 1` non-zero quotes over `n` currencies, a non-vanishing potential `u` with `quote = u a / u b` EXISTS,
and every one of the `n × n` rates is populated and equal to `u i / u j`.
-/
import RateslibModel.Proofs.FXComplete
import RateslibModel.Proofs.FXTree
import Mathlib.Tactic.IntervalCases
import Mathlib.Tactic.Tauto
namespace Rateslib

section Field
variable {K : Type} [Field K]

/-- Arbitrage-free: whenever the triangulation returns a result, EVERY cross rate is the ratio of the
two currencies' potentials — and all `n × n` rates are populated. -/
theorem C09_arbitrage_free (u : Nat → K) (hu : ∀ i, u i ≠ 0) (n : Nat) (pairs : List (Nat × Nat × K))
    (hp : ∀ p ∈ pairs, p.2.2 = u p.1 / u p.2.1) (fuel : Nat) (a' : FxArr K)
    (h : fill n fuel (initArr pairs 0) [] = some a') :
    ∀ i j, i < n → j < n → a'.edges i j = true ∧ a'.fx i j = u i / u j :=
  fill_init_rel (ratio_fxRel u hu) n fuel pairs 0 hp a' h

/-- ARBITRAGE-FREE, NO POTENTIAL ASSUMED: whenever the triangulation returns a result for `n − 1` non-zero
quotes over `n` currencies (indices in range), there is a non-vanishing `u` such that every quote is
`u a / u b` and EVERY one of the `n × n` rates is populated and equals `u i / u j` — so each rate times its
inverse is 1 and any cross is the product of the quotes along any path. -/
theorem C09_tree_arbitrage_free (n fuel : Nat) (pairs : List (Nat × Nat × K)) (a' : FxArr K)
    (hidx : ∀ p ∈ pairs, p.1 < n ∧ p.2.1 < n) (hlen : pairs.length + 1 = n)
    (hnz : ∀ p ∈ pairs, p.2.2 ≠ 0)
    (h : fill n fuel (initArr pairs 0) [] = some a') :
    ∃ u : Nat → K, (∀ i, u i ≠ 0) ∧ (∀ p ∈ pairs, p.2.2 = u p.1 / u p.2.1) ∧
      ∀ i j, i < n → j < n → a'.edges i j = true ∧ a'.fx i j = u i / u j := by
  obtain ⟨u, hu, hp⟩ := potential_of_fill n fuel pairs a' hidx hlen hnz h
  exact ⟨u, hu, hp, C09_arbitrage_free u hu n pairs hp fuel a' h⟩

/-- Each rate times its inverse is 1, every currency against itself is 1, and any cross equals the
product along any path of populated rates (by induction from the triangle law) — so the result does
not depend on the order in which the quotes were supplied nor on the base currency: it is determined
by the potential alone. -/
theorem C09_inverse_and_path (u : Nat → K) (hu : ∀ i, u i ≠ 0) (n : Nat) (pairs : List (Nat × Nat × K))
    (hp : ∀ p ∈ pairs, p.2.2 = u p.1 / u p.2.1) (fuel : Nat) (a' : FxArr K)
    (h : fill n fuel (initArr pairs 0) [] = some a') (i j k : Nat) (hi : i < n) (hj : j < n) (hk : k < n) :
    a'.fx i i = 1 ∧ a'.fx i j * a'.fx j i = 1 ∧ a'.fx i j * a'.fx j k = a'.fx i k := by
  have A := C09_arbitrage_free u hu n pairs hp fuel a' h
  rw [(A i i hi hi).2, (A i j hi hj).2, (A j i hj hi).2, (A j k hj hk).2, (A i k hi hk).2]
  refine ⟨?_, ?_, ?_⟩ <;> field_simp [hu i, hu j, hu k]

theorem C09_order_base_irrelevant (u : Nat → K) (hu : ∀ i, u i ≠ 0) (n : Nat)
    (pairs₁ pairs₂ : List (Nat × Nat × K))
    (hp₁ : ∀ p ∈ pairs₁, p.2.2 = u p.1 / u p.2.1) (hp₂ : ∀ p ∈ pairs₂, p.2.2 = u p.1 / u p.2.1)
    (f₁ f₂ : Nat) (a₁ a₂ : FxArr K)
    (h₁ : fill n f₁ (initArr pairs₁ 0) [] = some a₁) (h₂ : fill n f₂ (initArr pairs₂ 0) [] = some a₂)
    (i j : Nat) (hi : i < n) (hj : j < n) : a₁.fx i j = a₂.fx i j := by
  rw [(C09_arbitrage_free u hu n pairs₁ hp₁ f₁ a₁ h₁ i j hi hj).2,
    (C09_arbitrage_free u hu n pairs₂ hp₂ f₂ a₂ h₂ i j hi hj).2]

end Field

variable {τ : Type} [FxOps τ]

/-- which pairs the seed populates: the diagonal and every quoted pair, both ways round -/
theorem C09_seed_edges (pairs : List (Nat × Nat × τ)) (zero : τ) (i j : Nat) :
    (initArr pairs zero).edges i j = true ↔
      i = j ∨ ∃ p ∈ pairs, (i = p.1 ∧ j = p.2.1) ∨ (i = p.2.1 ∧ j = p.1) :=
  init_edges pairs zero i j

/-- COMPLETE: if the quoted pairs connect all `n` currencies (every set of currencies that is closed
under the quoted pairs and non-empty is everything) the triangulation terminates — within the fuel the
model gives it — with a result; by `C09_arbitrage_free` all n × n rates are then populated and right. -/
theorem C09_complete (n : Nat) (pairs : List (Nat × Nat × τ)) (zero : τ)
    (hconn : Connected n (initArr pairs zero)) :
    ∃ a', fill n (fillFuel n) (initArr pairs zero) [] = some a' := by
  have hrefl : ReflEdges n (initArr pairs zero) := fun i _ => (init_edges pairs zero i i).2 (Or.inl rfl)
  exact fill_complete n (fillFuel n) _ [] (init_symm pairs zero) hrefl hconn (fun p hp => nomatch hp)
    (fillFuel_enough n _ _ (navail_le n []))

/-- REJECTED: if some non-empty set of currencies is closed under the quoted pairs and misses a
currency (the quotes do not connect the market: under-specified, or the right number of quotes but
with a cycle), no result is ever returned. -/
theorem C09_disconnected_rejected (n : Nat) (pairs : List (Nat × Nat × τ)) (zero : τ) (S : Nat → Prop)
    (hS : Closed n (initArr pairs zero) S) (i0 j0 : Nat) (hi0 : i0 < n) (hj0 : j0 < n) (hin : S i0)
    (hout : ¬ S j0) (fuel : Nat) :
    fill n fuel (initArr pairs zero) [] = none :=
  fill_none_of_disconnected n S i0 j0 hi0 hj0 hin hout fuel _ [] hS

/-- Quoted pairs are returned exactly as quoted and the diagonal exactly as 1 (every element type,
f64 itself included): the triangulation never rewrites an entry that is already populated. -/
theorem C09_exact_quotes (n fuel : Nat) (pairs : List (Nat × Nat × τ)) (zero : τ) (a' : FxArr τ)
    (h : fill n fuel (initArr pairs zero) [] = some a') (i j : Nat)
    (hij : (initArr pairs zero).edges i j = true) :
    a'.fx i j = (initArr pairs zero).fx i j :=
  (fill_keeps n fuel _ a' [] (init_symm pairs zero) h i j hij).1

/-- the seed holds the last quote written at a position: a quote `(row, col, x)` that no later quote
overwrites is stored at `[row][col]` as given -/
theorem C09_seed_holds_quote (ps : List (Nat × Nat × τ)) (row col : Nat) (x zero : τ) (hne : row ≠ col) :
    (initArr (ps ++ [(row, col, x)]) zero).fx row col = x ∧
    (initArr (ps ++ [(row, col, x)]) zero).edges row col = true := by
  rw [initArr_eq, List.foldl_append]
  exact ⟨writePair_fx_ij _ row col x fun h => hne h.1,
    (writePair_edges _ row col x _ _).2 (Or.inr (Or.inl ⟨rfl, rfl⟩))⟩

section
variable {α : Type} [Add α] [Sub α] [Mul α] [Div α] [Neg α] [OfNat α 0] [OfNat α 1] [OfNat α 2]
  [Transc α]

/-- Quote sets that are under-specified, over-specified or have inconsistent settlement dates are
rejected with an error and never yield rates. -/
theorem C09_rejects (quotes : List (FXQuote α)) (base : Option String) :
    (quotes = [] → FXRates.tryNew quotes base = .error .empty) ∧
    (quotes ≠ [] → (fxCurrencies quotes base).length > quotes.length + 1 →
      FXRates.tryNew quotes base = .error .underspecified) ∧
    (quotes ≠ [] → (fxCurrencies quotes base).length < quotes.length + 1 →
      FXRates.tryNew quotes base = .error .overspecified) := by
  refine ⟨fun h => by simp [FXRates.tryNew, h], fun h hq => ?_, fun h hq => ?_⟩
  · have : quotes.isEmpty = false := List.isEmpty_eq_false_iff.2 h
    simp [FXRates.tryNew, this, hq]
  · have : quotes.isEmpty = false := List.isEmpty_eq_false_iff.2 h
    have h2 : ¬ (fxCurrencies quotes base).length > quotes.length + 1 := by omega
    simp [FXRates.tryNew, this, hq, h2]

theorem C09_rejects_settlement (quotes : List (FXQuote α)) (base : Option String) (q0 : FXQuote α)
    (rest : List (FXQuote α)) (hq : quotes = q0 :: rest)
    (hcount : (fxCurrencies quotes base).length = quotes.length + 1)
    (hmix : ∃ q ∈ quotes, q.settlement ≠ q0.settlement) :
    FXRates.tryNew quotes base = .error .settlement := by
  obtain ⟨q, hqm, hne⟩ := hmix
  have hc : ¬ (fxCurrencies quotes base).length > quotes.length + 1 := by omega
  have hc2 : ¬ (fxCurrencies quotes base).length < quotes.length + 1 := by omega
  unfold FXRates.tryNew
  have hem : quotes.isEmpty = false := by rw [hq]; rfl
  rw [hem]
  simp only [Bool.false_eq_true, if_false, hc, hc2]
  have hs0 : (quotes.head?.map (·.settlement)).getD none = q0.settlement := by rw [hq]; rfl
  rw [hs0]
  cases hs : q0.settlement with
  | none =>
    have hall : (quotes.all fun x => x.settlement.isNone) = false := by
      rw [List.all_eq_false]
      refine ⟨q, hqm, ?_⟩
      rw [hs] at hne
      cases hq' : q.settlement with
      | none => exact absurd hq' hne
      | some d => simp
    simp only [hall, Bool.not_false, if_true]
  | some d =>
    have hall : (quotes.all fun x => x.settlement == some d) = false := by
      rw [List.all_eq_false]
      refine ⟨q, hqm, ?_⟩
      rw [hs] at hne
      simpa using hne
    simp only [hall, Bool.not_false, if_true]

end

/-! Non-vacuity: three currencies, quotes eurusd = 2 (as usd per eur: row eur, col usd) and
usdjpy = 4 admit the potential u = (8, 4, 1); the triangulation completes and every cross is a
ratio of potentials.  At `K = ℝ`/`ℚ` the field arithmetic is the arithmetic the model uses. -/
example : (fill 3 (fillFuel 3) (initArr [(0, 1, (2 : ℚ)), (1, 2, 4)] 0) []).map
    (fun a => (a.fx 0 2, a.fx 2 0, a.fx 0 1, a.fx 1 1)) = some (8, 1 / 8, 2, 1) := by decide +kernel

/-- the hypothesis of `C09_complete` is met by the chain eur–usd–jpy … -/
example : Connected 3 (initArr [(0, 1, (2 : ℚ)), (1, 2, 4)] 0) := by
  intro S hS hne j hj
  obtain ⟨i, hi, hSi⟩ := hne
  have e01 : S 0 ↔ S 1 := hS 0 1 (by decide) (by decide) (by decide)
  have e12 : S 1 ↔ S 2 := hS 1 2 (by decide) (by decide) (by decide)
  interval_cases i <;> interval_cases j <;> tauto

/-- … and that of `C09_disconnected_rejected` by two quotes on four currencies that leave the pair
{2, 3} apart from {0, 1} (eurusd and gbpjpy: right count for 3 currencies, not for these 4 — and also
the shape a cycle leaves behind) -/
example : Closed 4 (initArr [(0, 1, (2 : ℚ)), (2, 3, 4)] 0) (fun i => i < 2) := by
  intro i j hi hj hij
  rw [C09_seed_edges] at hij
  rcases hij with rfl | ⟨p, hp, h⟩
  · exact Iff.rfl
  · simp only [List.mem_cons, List.mem_nil_iff, or_false] at hp
    rcases hp with rfl | rfl <;> rcases h with ⟨rfl, rfl⟩ | ⟨rfl, rfl⟩ <;> simp

/-! Non-vacuity of the tree hypotheses: the chain 0 – 1 – 2 (two quotes, three currencies) is connected, so
`forest_potential` applies to it with any values on its edges. -/
example : ConnectedE (G := ℚ) 3 [(0, 1, 2), (1, 2, 5)] := by
  intro S hS hne j hj
  have h01 := hS (0, 1, 2) (by simp)
  have h12 := hS (1, 2, 5) (by simp)
  simp only at h01 h12
  obtain ⟨i, hi, hSi⟩ := hne
  have h0 : S 0 := by
    interval_cases i
    · exact hSi
    · exact h01.2 hSi
    · exact h01.2 (h12.2 hSi)
  interval_cases j
  · exact h0
  · exact h01.1 h0
  · exact h12.1 (h01.1 h0)

end Rateslib
