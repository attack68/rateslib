/-
C08  Month arithmetic and roll-day rules follow calendar arithmetic.
Property theorems only; helper lemmas are in Proofs/Dates.lean.
-/
import RateslibModel.Proofs.Dates
namespace Rateslib

/-- The month index `M = 12·y + (m−1)` advances by exactly `k`, for every integer offset `k`
(negative, zero, positive, multi-year), and the resulting month is in 1..12. -/
theorem C08_add_months_ym (y mo k : Int) (h1 : 1 ≤ mo) (h2 : mo ≤ 12) :
    addMonthsYm y mo k = ((y * 12 + (mo - 1) + k) / 12, (y * 12 + (mo - 1) + k) % 12 + 1) := by
  have hr := addMonths_rem_bounds k
  unfold addMonthsYm
  generalize ((k.natAbs / 12 : Nat) : Int) * k.sign = yr at hr ⊢
  simp only
  repeat' split
  all_goals (simp only [Prod.mk.injEq]; omega)

/-- The roll day that `add_months` resolves: the start date's own day if no roll is given,
31 (capped) for end-of-month, 1 for start-of-month, the given day otherwise. -/
def rollDayOf (startDay : Int) : RollDay → Int
  | .unspecified => startDay
  | .int d => d
  | .eom => 31
  | .som => 1
  | .imm => 0   -- not used: the theorems about `.imm` (`C08_add_months_imm`) do not go through `rollDayOf`

/-- Unadjusted result of adding `k` months: the date in the month exactly `k` months away whose
day is the requested roll day capped at that month's length. -/
theorem C08_add_months (c : Ymd) (k : Int) (roll : RollDay)
    (hm1 : 1 ≤ c.m) (hm2 : c.m ≤ 12) (hd1 : 1 ≤ c.d) (hd2 : c.d ≤ 31)
    (hr : ∀ d, roll = .int d → 1 ≤ d ∧ d ≤ 31) (himm : roll ≠ .imm) :
    let M := c.y * 12 + (c.m - 1) + k
    addMonthsRaw c k roll
      = .ok ⟨M / 12, M % 12 + 1, min (rollDayOf c.d roll) (monthLen (M / 12) (M % 12 + 1))⟩ := by
  intro M
  have hM1 : 1 ≤ M % 12 + 1 := by omega
  have hM2 : M % 12 + 1 ≤ 12 := by omega
  unfold addMonthsRaw
  rw [C08_add_months_ym c.y c.m k hm1 hm2]
  cases roll with
  | unspecified => simp only [getRoll, rollDayOf]; exact getRollByDay_spec _ _ _ hM1 hM2 hd1
  | int d => simp only [getRoll, rollDayOf]; exact getRollByDay_spec _ _ _ hM1 hM2 (hr d rfl).1
  | eom => simp only [getRoll, rollDayOf]; exact getRollByDay_spec _ _ _ hM1 hM2 (by omega)
  | som => simp only [getRoll, rollDayOf]; exact getRollByDay_spec _ _ _ hM1 hM2 (by omega)
  | imm => exact absurd rfl himm

/-- IMM roll: the result is the IMM date of the month exactly `k` months away. -/
theorem C08_add_months_imm (c : Ymd) (k : Int) (hm1 : 1 ≤ c.m) (hm2 : c.m ≤ 12) :
    let M := c.y * 12 + (c.m - 1) + k
    addMonthsRaw c k .imm = .ok (getImm (M / 12) (M % 12 + 1)) := by
  intro M
  unfold addMonthsRaw
  rw [C08_add_months_ym c.y c.m k hm1 hm2]
  simp only [getRoll, M]

/-- The IMM date of every month is its third Wednesday: it is a Wednesday (weekday 2, Monday = 0),
lies in the same month and its day is in 15..21 — so exactly two Wednesdays (d−7, d−14) precede it
in the month and d−21 < 1. -/
theorem C08_imm (y m : Int) :
    weekday (toDay y m (getImm y m).d) = 2 ∧ 15 ≤ (getImm y m).d ∧ (getImm y m).d ≤ 21
      ∧ (getImm y m).y = y ∧ (getImm y m).m = m := by
  have h : toDay y m 15 = toDay y m 1 + 14 := toDay_add y m 1 14
  rw [getImm_eq]
  simp only [toDay_add, weekday, h, and_true]
  omega

/-- The end-of-month date is the month's last day. -/
theorem C08_eom (y m : Int) (h1 : 1 ≤ m) (h2 : m ≤ 12) :
    getEom y m = .ok ⟨y, m, monthLen y m⟩ ∧ validYmd y m (monthLen y m) = true
      ∧ validYmd y m (monthLen y m + 1) = false := by
  have hb := monthLen_bounds y m h1 h2
  refine ⟨getEom_spec y m h1 h2, ?_, ?_⟩
  · rw [validYmd_iff]; omega
  · cases h : validYmd y m (monthLen y m + 1) with
    | false => rfl
    | true => have := (validYmd_iff _ _ _).1 h; omega

/-- Leap years follow the Gregorian rule. -/
theorem C08_leap (y : Int) :
    isLeapYear y = true ↔ (y % 4 = 0 ∧ (y % 100 ≠ 0 ∨ y % 400 = 0)) := by
  unfold isLeapYear
  rw [validYmd_iff]
  unfold monthLen isLeapRule
  by_cases h4 : y % 4 = 0 <;> by_cases h100 : y % 100 = 0 <;> by_cases h400 : y % 400 = 0 <;>
    simp [h4, h100, h400] <;> omega

/-- `get_roll` refuses an unspecified roll and never panics for roll days 1..31. -/
theorem C08_get_roll_total (y m : Int) (r : RollDay) (h1 : 1 ≤ m) (h2 : m ≤ 12)
    (hr : ∀ d, r = .int d → 1 ≤ d ∧ d ≤ 31) :
    (r = .unspecified → getRoll y m r = .err) ∧ (r ≠ .unspecified → ∃ t, getRoll y m r = .ok t) := by
  cases r with
  | unspecified => simp [getRoll]
  | int d => simp [getRoll, getRollByDay_spec y m d h1 h2 (hr d rfl).1]
  | eom => simp [getRoll, getRollByDay_spec y m 31 h1 h2]
  | som => simp [getRoll, getRollByDay_spec y m 1 h1 h2]
  | imm => simp [getRoll]

/-! Non-vacuity: concrete instances of the hypotheses and of the statements. -/
example : addMonthsRaw ⟨2024, 1, 31⟩ 1 .unspecified = .ok ⟨2024, 2, 29⟩ := by decide
example : addMonthsRaw ⟨2023, 11, 30⟩ (-21) .eom = .ok ⟨2022, 2, 28⟩ := by decide
example : addMonthsRaw ⟨2023, 11, 30⟩ 37 (.int 31) = .ok ⟨2026, 12, 31⟩ := by decide
example : getImm 2024 3 = ⟨2024, 3, 20⟩ := by decide
example : isLeapYear 2000 = true ∧ isLeapYear 2100 = false ∧ isLeapYear 2024 = true := by decide

end Rateslib
