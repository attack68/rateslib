/-
C01  First-order automatic differentiation is exact.

`Expr` is any formula built from +, −, ×, ÷, negation, real powers, exp, log, normal cdf Φ, inverse
normal cdf and abs over leaves and constants.  `evalD e env` evaluates it with the MODEL's first-order
dual-number operations (Model/Dual.lean, tied to the Rust code by the correspondence run) on
arbitrary shape-valid dual leaves `env i` (any tagging: several names per leaf, arbitrary
coefficients, any layouts).  `evalR` is plain real evaluation.  f64 rounding and the statrs
implementation of Φ, Φ⁻¹ are modelled, not verified.
-/
import RateslibModel.Analysis.Refine
namespace Rateslib
open Expr
open Rateslib.Dual

/-- The value returned equals plain evaluation of the formula at the leaves' values, wherever the
formula is differentiable. -/
theorem C01_value (e : Expr) (env : Nat → Dual ℝ) (hwf : ∀ i, (env i).WF)
    (hd : Dom e (fun i => (env i).real)) :
    (evalD e env).real = evalR e (fun i => (env i).real) := by
  have hr := (evalD_refines e env hwf "").2
  have hs := (jet_sound e (fun i t => (env i).real + t * den (env i) "") (fun i => den (env i) "") 0
    (fun i => hasDerivAt_line _ _) (by simpa using hd)).1
  rw [← jetOf_fst (evalD e env) "", hr]
  simpa [jetOf] using hs

/-- The gradient is the true derivative: let the leaves move along ANY differentiable curve
`t ↦ u i t` through their values whose velocity at `t₀` is the leaf's sensitivity to the variable
named `v`; then the formula, as a function of `t`, has derivative at `t₀` equal to the sensitivity
to `v` that the dual-number evaluation reports. -/
theorem C01_grad_exact (e : Expr) (env : Nat → Dual ℝ) (hwf : ∀ i, (env i).WF) (v : String)
    (u : Nat → ℝ → ℝ) (t₀ : ℝ) (hu0 : ∀ i, u i t₀ = (env i).real)
    (hu : ∀ i, HasDerivAt (u i) (den (env i) v) t₀)
    (hd : Dom e (fun i => (env i).real)) :
    HasDerivAt (fun t => evalR e (fun i => u i t)) (den (evalD e env) v) t₀ := by
  have hr := (evalD_refines e env hwf v).2
  have hd' : Dom e (fun i => u i t₀) := by simpa only [hu0] using hd
  have hs := (jet_sound e u (fun i => den (env i) v) t₀ hu hd').2
  rw [← jetOf_snd (evalD e env) v, hr]
  have : (fun i => jetOf (env i) v) = (fun i => (u i t₀, den (env i) v)) := by
    funext i; simp only [jetOf, hu0]
  rw [this]; exact hs

/-- In particular the reported sensitivity to `v` is the true partial derivative with respect to the
tagged variable `v`: move `v` by `t` (every leaf responds linearly with its own coefficient for `v`),
keep every other variable fixed. -/
theorem C01_partial_derivative (e : Expr) (env : Nat → Dual ℝ) (hwf : ∀ i, (env i).WF) (v : String)
    (hd : Dom e (fun i => (env i).real)) :
    HasDerivAt (fun t => evalR e (fun i => (env i).real + t * den (env i) v))
      (den (evalD e env) v) 0 := by
  apply C01_grad_exact e env hwf v (fun i t => (env i).real + t * den (env i) v) 0
  · intro i; simp
  · exact fun i => hasDerivAt_line _ _
  · exact hd

/-- The result is shape-valid and its (value, sensitivity by name) pair is the scalar jet of the
formula: the list-level machinery (alignment, re-indexing, unions) never leaks into the result. -/
theorem C01_refines (e : Expr) (env : Nat → Dual ℝ) (hwf : ∀ i, (env i).WF) (v : String) :
    (evalD e env).WF ∧
      ((evalD e env).real, den (evalD e env) v)
        = evalJ e (fun i => ((env i).real, den (env i) v)) :=
  evalD_refines e env hwf v

/-- Mixing floats and duals in either operand position gives the same answer (value and sensitivity
to every name) as promoting the float to a constant — for +, −, × in both positions (÷ in both
positions: `C01_mixed_div`). -/
theorem C01_mixed_eq_promoted (f : ℝ) (d : Dual ℝ) (hd : d.WF) (v : String) :
    jetOf (Dual.addF d f) v = jetOf (Dual.add false d (Dual.new f [])) v ∧
    jetOf (Dual.fAdd f d) v = jetOf (Dual.add false (Dual.new f []) d) v ∧
    jetOf (Dual.subF d f) v = jetOf (Dual.sub false d (Dual.new f [])) v ∧
    jetOf (Dual.fSub f d) v = jetOf (Dual.sub false (Dual.new f []) d) v ∧
    jetOf (Dual.mulF d f) v = jetOf (Dual.mul false d (Dual.new f [])) v ∧
    jetOf (Dual.fMul f d) v = jetOf (Dual.mul false (Dual.new f []) d) v := by
  obtain ⟨wn, jn⟩ := const_jetOf f v
  have hz : den (Dual.new f []) v = 0 := congrArg Prod.snd jn
  have hr : (Dual.new f []).real = f := rfl
  refine ⟨?_, ?_, ?_, ?_, ?_, ?_⟩
  · rw [(add_jetOf d _ hd wn v).2, hz, hr, add_zero]
    rfl
  · rw [(add_jetOf _ d wn hd v).2, hz, hr, zero_add]
    exact Prod.ext (add_comm _ _) rfl
  · rw [(sub_jetOf d _ hd wn v).2, hz, hr, sub_zero]
    rfl
  · rw [(sub_jetOf _ d wn hd v).2, hz, hr, zero_sub]
    exact Prod.ext rfl (den_neg d _ v)
  · rw [(mul_jetOf d _ hd wn v).2, hz, hr, zero_mul, add_zero, mul_comm (den d v)]
    exact (scaleL_jetOf d hd _ f v).2
  · rw [(mul_jetOf _ d wn hd v).2, hz, hr, zero_mul, zero_add, mul_comm f, mul_comm (den d v)]
    exact (scaleL_jetOf d hd _ f v).2

theorem rpow_neg_two (x : ℝ) : x ^ ((-1 : ℝ) - 1) = 1 / (x * x) := by
  have : ((-1 : ℝ) - 1) = ((-2 : ℤ) : ℝ) := by norm_num
  rw [this, Real.rpow_intCast]
  rw [zpow_neg, zpow_ofNat, pow_two, one_div]

/-- …and for division: a dual number divided by a float, and a float divided by a dual number, equal the
division with the float promoted to a constant. -/
theorem C01_mixed_div (f : ℝ) (d : Dual ℝ) (hd : d.WF) (v : String) :
    jetOf (Dual.divF d f) v = jetOf (Dual.div false d (Dual.new f [])) v ∧
    jetOf (Dual.fDiv f d) v = jetOf (Dual.div false (Dual.new f []) d) v := by
  obtain ⟨wn, jn⟩ := const_jetOf f v
  have hz : den (Dual.new f []) v = 0 := congrArg Prod.snd jn
  have hr : (Dual.new f []).real = f := rfl
  constructor
  · rw [(div_jetOf d _ hd wn v).2, hz, hr]
    exact (scaleL_jetOf d hd _ (1 / f) v).2.trans (Prod.ext (by ring) (by ring))
  · rw [(div_jetOf _ d wn hd v).2, hz, hr]
    exact (scaleL_jetOf d hd _ (-f / (d.real * d.real)) v).2.trans (Prod.ext (by ring) (by ring))

/-- Owned and borrowed negation agree (the two macro expansions compute `-x` and `x * -1`). -/
theorem C01_variants (d : Dual ℝ) (hd : d.WF) (v : String) :
    jetOf (Dual.neg d) v = jetOf (Dual.negRef d) v := by
  refine Prod.ext rfl ?_
  simp only [jetOf_snd, Dual.neg, Dual.negRef]
  rw [den_neg d, den_scaleR d (-1)]; ring

/-! Non-vacuity: a concrete formula, leaves with different layouts, inside the domain:
`log (x·y) / z` with x = 2 tagged {a,b}, y = 3 tagged {b}, z = 5 tagged {c,a}. -/
noncomputable def exEnv : Nat → Dual ℝ
  | 0 => ⟨2, ["a", "b"], [1, 4]⟩
  | 1 => ⟨3, ["b"], [1]⟩
  | _ => ⟨5, ["c", "a"], [1, 2]⟩
def exExpr : Expr := .div (.log (.mul (.leaf 0) (.leaf 1))) (.leaf 2)
example : (∀ i, (exEnv i).WF) ∧ Dom exExpr (fun i => (exEnv i).real) := by
  constructor
  · intro i
    rcases i with _ | _ | i <;> exact ⟨by simp [exEnv], by simp [exEnv]⟩
  · simp only [exExpr, Dom, evalR, exEnv, true_and]
    norm_num

/-- a power with base exactly 0 is inside the domain of the theorems wherever `x^p` is differentiable there:
`p ≥ 1` and `x⁰` -/
example : Dom (.powc (.leaf 0) 1) (fun _ => (0 : ℝ)) ∧ Dom (.powc (.leaf 0) 0) (fun _ => (0 : ℝ)) := by
  refine ⟨?_, ?_⟩ <;> simp only [Dom, evalR, true_and] <;> norm_num

end Rateslib
