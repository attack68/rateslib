/-
C20  Fallible entry points return errors, never abort; date arithmetic is total.

In the model every place where the implementation can panic is an explicit `Outcome.panic` marker
(`lag`'s `.unwrap()`, `get_roll_by_day`'s `panic!`, `add_months`'s `get_roll(..).unwrap()`), the
loops carry fuel (`none` = still searching after `fuel` days; C04/C05 show a result exists whenever a
business day lies within reach — and one always does: `C20_adjust_terminates`, `C20_cal_adjust_terminates`,
`C20_union_adjust_terminates` give the explicit fuel bound "distance to the span of the holidays + 8 days" for
every calendar with a working weekday, resp. every combination whose parts share one, so the real loops,
which carry no fuel, terminate), and every validating constructor / loader returns `Option`/`Except`.
The theorems say: the panic markers are unreachable for every argument in the documented ranges, and
every value that IS returned satisfies its type's shape invariants.  That the implementation has no
further panic sites than the model is what the correspondence run checks (every call under
`catch_unwind`, JSON loading in a worker process so that an abort is observed).

Loading from JSON is stated over every JSON TREE (`Load.JVal`), which covers every text obtained from a
valid document by deleting, duplicating or altering fields and values, and far more.
-/
import RateslibModel.Props.C04
import RateslibModel.Props.C05
import RateslibModel.Props.C06
import RateslibModel.Props.C08
import RateslibModel.Proofs.Load
import RateslibModel.Proofs.NewFrom
import RateslibModel.Model.Spline
namespace Rateslib
open DR

section Dates
variable (c : DR)

/-- civil dates produced from day numbers always have a month in 1..12 and a day in 1..31 -/
theorem ofDay_bounds (n : Int) :
    1 ≤ (ofDay n).m ∧ (ofDay n).m ≤ 12 ∧ 1 ≤ (ofDay n).d ∧ (ofDay n).d ≤ 31 := by
  unfold ofDay
  simp only
  split <;> omega

/-- Calendar-day addition never aborts, for EVERY day count (in particular all 256 values of the
8-bit parameter, −128 included). -/
theorem C20_add_days_total (fuel : Nat) (d n : Int) (m : Modifier) (s : Bool) :
    ∃ r, c.addDays fuel d n m s = .ok r :=
  ⟨_, C05_add_days c fuel d n m s⟩

/-- Business-day addition: an error exactly for a non-business start, a value otherwise; never an abort. -/
theorem C20_add_bus_days_total (fuel : Nat) (d n : Int) (s : Bool) :
    (c.isBus d = false → c.addBusDays fuel d n s = .err) ∧
    (c.isBus d = true → ∃ r, c.addBusDays fuel d n s = .ok r) :=
  ⟨C05_rejects c fuel d n s, fun hb => ⟨_, addBusDays_of_isBus c fuel d n s hb⟩⟩

/-- `lag` never aborts: the `.unwrap()` of the inner business-day addition is only ever applied to a
date that the preceding roll has made a business day, and `days ± 1` stays inside the 8-bit range. -/
theorem C20_lag_total (fuel : Nat) (d n : Int) (s : Bool) :
    ∃ r, c.lag fuel d n s = .ok r := by
  obtain ⟨h1, h2, h3, h4⟩ := C05_lag c fuel d n s
  by_cases hb : c.isBus d = true
  · rw [h1 hb]; exact (C20_add_bus_days_total c fuel d n s).2 hb
  · have hb' : c.isBus d = false := by simpa using hb
    rcases Int.lt_trichotomy n 0 with hn | hn | hn
    · cases hr : c.rollBwd fuel d with
      | none =>
        refine ⟨none, ?_⟩
        unfold lag; rw [if_neg (by simp [hb']), if_neg (by omega), if_pos hn, hr]
      | some r =>
        rw [h4 hb' hn r hr]
        exact (C20_add_bus_days_total c fuel r (n + 1) s).2 ((c.rollBwd_eq_some fuel d r).1 hr).2.2.1
    · exact ⟨_, h2 hb' hn⟩
    · cases hr : c.rollFwd fuel d with
      | none =>
        refine ⟨none, ?_⟩
        unfold lag; rw [if_neg (by simp [hb']), if_neg (by omega), if_neg (by omega), hr]
      | some r =>
        rw [h3 hb' hn r hr]
        exact (C20_add_bus_days_total c fuel r (n - 1) s).2 ((c.rollFwd_eq_some fuel d r).1 hr).2.2.1

/-- the 8-bit arithmetic inside `lag` (`days + 1` for negative, `days − 1` for positive counts) cannot
overflow -/
theorem C20_lag_i8 (n : Int) (h1 : -128 ≤ n) (h2 : n ≤ 127) :
    (n < 0 → i8ok (n + 1) = true) ∧ (0 < n → i8ok (n - 1) = true) := by
  unfold i8ok
  constructor <;> intro h <;> simp <;> omega

/-- Month addition never aborts for any month offset, any date and roll days 1..31 (or end-of-month,
start-of-month, IMM, or the date's own day): the `get_roll(..).unwrap()` and the `panic!` in
`get_roll_by_day` are unreachable. -/
theorem C20_add_months_total (fuel : Nat) (d months : Int) (m : Modifier) (roll : RollDay) (s : Bool)
    (hr : ∀ k, roll = .int k → 1 ≤ k ∧ k ≤ 31) :
    ∃ r, c.addMonths fuel d months m roll s = .ok r := by
  obtain ⟨hm1, hm2, hd1, hd2⟩ := ofDay_bounds d
  unfold addMonths
  by_cases himm : roll = .imm
  · subst himm
    rw [C08_add_months_imm (ofDay d) months hm1 hm2]
    exact ⟨_, rfl⟩
  · rw [C08_add_months (ofDay d) months roll hm1 hm2 hd1 hd2 hr himm]
    exact ⟨_, rfl⟩

/-- Adjustment itself has no abort path at all (its only failure mode in the model is fuel), and with
an eligible day within reach on both sides every rule returns a date. -/
theorem C20_adjust_total (fuel : Nat) (d e1 e2 : Int) (m : Modifier) (s : Bool)
    (h1 : d ≤ e1) (h2 : e1 < d + fuel) (he1 : c.Elig true e1)
    (h3 : e2 ≤ d) (h4 : d - fuel < e2) (he2 : c.Elig true e2) :
    ∃ r, c.roll fuel d m s = some r :=
  C04_total c fuel d e1 e2 m s h1 h2 he1 h3 h4 he2

/-- TERMINATION OF EVERY ADJUSTMENT, for any date-roll object that has a working weekday `w` on which,
outside a bounded range `[lo, hi]` (the span of its holidays), every date is a business day and a settlement
day: whatever the date, modifier and settlement flag, the adjustment returns a date as soon as the fuel
covers the distance to that range plus eight days — the real loops, which carry no fuel, terminate. -/
theorem C20_adjust_terminates (w : Int) (hw : 0 ≤ w ∧ w < 7) (lo hi : Int)
    (H : ∀ e, weekday e = w → (e < lo ∨ hi < e) → c.isBus e = true ∧ c.isSettlement e = true)
    (d : Int) (m : Modifier) (s : Bool) (fuel : Nat)
    (hf : max (max (hi - d) (d - lo)) 0 + 8 < fuel) :
    ∃ r, c.roll fuel d m s = some r := by
  -- a day of weekday `w` lies within a week after `x = max d (hi + 1)`, another within a week before
  -- `y = min d (lo - 1)`; only these bounds on `x`, `y` are used (the nested `max` is dear in `omega`)
  obtain ⟨x, hx⟩ : ∃ x, d ≤ x ∧ hi < x ∧ x + 7 ≤ d + fuel := ⟨max d (hi + 1), by omega⟩
  obtain ⟨y, hy⟩ : ∃ y, y ≤ d ∧ y < lo ∧ d - fuel ≤ y - 7 := ⟨min d (lo - 1), by omega⟩
  clear hf
  obtain ⟨e1, a1, a2, a3⟩ := exists_weekday x w hw
  obtain ⟨e2, b1, b2, b3⟩ := exists_weekday (y - 6) w hw
  have he1 := H e1 a3 (Or.inr (by omega))
  have he2 := H e2 b3 (Or.inl (by omega))
  exact C20_adjust_total c fuel d e1 e2 m s (by omega) (by omega) ⟨he1.1, fun _ => he1.2⟩
    (by omega) (by omega) ⟨he2.1, fun _ => he2.2⟩

/-- …in particular for every plain calendar with at least one working weekday and holidays in a bounded
range (every `Cal`: its holiday set is finite). -/
theorem C20_cal_adjust_terminates (cal : Cal) (w : Int) (hw : 0 ≤ w ∧ w < 7) (hmask : cal.mask w = false)
    (lo hi : Int) (hb : ∀ e, cal.hol e = true → lo ≤ e ∧ e ≤ hi)
    (d : Int) (m : Modifier) (s : Bool) (fuel : Nat) (hf : max (max (hi - d) (d - lo)) 0 + 8 < fuel) :
    ∃ r, cal.toDR.roll fuel d m s = some r :=
  C20_adjust_terminates cal.toDR w hw lo hi
    (fun e he hout => ⟨cal.isBus_of_working lo hi e (he ▸ hmask) hb hout, rfl⟩) d m s fuel hf

/-- …and for every combined calendar whose members and settlement calendars share a working weekday (a
combination without a common working weekday has no business day at all: the real loops then run to
chrono's overflow panic — the excluded point). -/
theorem C20_union_adjust_terminates (u : UnionCal) (w : Int) (hw : 0 ≤ w ∧ w < 7)
    (hmask : ∀ cal ∈ u.calendars, cal.mask w = false)
    (hmaskS : ∀ v, u.settlement = some v → ∀ cal ∈ v, cal.mask w = false)
    (lo hi : Int) (hb : ∀ cal ∈ u.calendars, ∀ e, cal.hol e = true → lo ≤ e ∧ e ≤ hi)
    (hbS : ∀ v, u.settlement = some v → ∀ cal ∈ v, ∀ e, cal.hol e = true → lo ≤ e ∧ e ≤ hi)
    (d : Int) (m : Modifier) (s : Bool) (fuel : Nat) (hf : max (max (hi - d) (d - lo)) 0 + 8 < fuel) :
    ∃ r, u.toDR.roll fuel d m s = some r := by
  apply C20_adjust_terminates u.toDR w hw lo hi _ d m s fuel hf
  intro e he hout
  refine ⟨(C06_bus u e).2 fun cal hc => cal.isBus_of_working lo hi e (he ▸ hmask cal hc) (hb cal hc) hout,
    (C06_settle u e).2 fun cal hc => ?_⟩
  cases hsv : u.settlement with
  | none => rw [hsv] at hc; cases hc
  | some v =>
    rw [hsv] at hc
    exact cal.isBus_of_working lo hi e (he ▸ hmaskS v hsv cal hc) (hbS v hsv cal hc) hout

end Dates

section Constructors
variable {α : Type} [OfNat α 0] [OfNat α 1]

omit [OfNat α 0] in
/-- `Dual::try_new` returns a number whose sensitivities match its (de-duplicated) names, or an error. -/
theorem C20_dual_try_new (re : α) (vs : List String) (ds : List α) (d : Dual α)
    (h : Dual.tryNew re vs ds = some d) :
    d.vars = dedup vs ∧ d.dual.length = d.vars.length :=
  have ⟨hw, _, hv⟩ := Dual.tryNew_wf re vs ds d h
  ⟨hv, hw.2⟩

/-- `Dual2::try_new`: names, sensitivities and the Hessian's row count agree. -/
theorem C20_dual2_try_new (re : α) (vs : List String) (ds hs : List α) (d : Dual2 α)
    (h : Dual2.tryNew re vs ds hs = some d) :
    d.vars = dedup vs ∧ d.dual.length = d.vars.length ∧ d.dual2.length = d.vars.length :=
  have ⟨hw, _, hv⟩ := Dual2.tryNew_wf re vs ds hs d h
  ⟨hv, hw.2.1, hw.2.2.1⟩

/-- `Dual::try_new_from` (a fresh number on ANOTHER number's variable list): an error, or a number with
exactly that list and as many sensitivities. -/
theorem C20_dual_try_new_from (ov : List String) (re : α) (vs : List String) (ds : List α) (r : Dual α)
    (h : Dual.tryNewFrom ov re vs ds = some r) : r.vars = ov ∧ r.dual.length = r.vars.length := by
  unfold Dual.tryNewFrom at h
  cases hd : Dual.tryNew re vs ds with
  | none => rw [hd] at h; cases h
  | some d =>
    rw [hd] at h; injection h with h; subst h
    rw [Dual.toNewVars_cmp_eq d ov (Dual.tryNew_wf re vs ds d hd).1]
    exact ⟨rfl, List.length_map _⟩

/-- `Dual2::try_new_from`: an error, or a number with exactly the other list, as many sensitivities and as
many Hessian rows. -/
theorem C20_dual2_try_new_from (ov : List String) (re : α) (vs : List String) (ds hs : List α) (r : Dual2 α)
    (h : Dual2.tryNewFrom ov re vs ds hs = some r) :
    r.vars = ov ∧ r.dual.length = r.vars.length ∧ r.dual2.length = r.vars.length := by
  unfold Dual2.tryNewFrom at h
  cases hd : Dual2.tryNew re vs ds hs with
  | none => rw [hd] at h; cases h
  | some d =>
    rw [hd] at h; injection h with h; subst h
    rw [Dual2.toNewVars_cmp_eq d ov (Dual2.tryNew_wf re vs ds hs d hd).1]
    exact ⟨rfl, List.length_map _, List.length_map _⟩

end Constructors

section Currencies
open Load

/-- `Ccy::try_new`: the stored name is the lower-cased input and has exactly three bytes. -/
theorem C20_ccy_try_new (name c : String) (h : ccyTryNew name = some c) :
    c = lowerStr name ∧ c.utf8ByteSize = 3 :=
  ccyTryNew_spec name c h

/-- lower-casing is idempotent (what makes a stored name a fixed point) -/
theorem C20_lower_idempotent (s : String) : lowerStr (lowerStr s) = lowerStr s := lowerStr_idem s

/-- The stored name of a currency is a fixed point of the constructor: constructing (or loading) a currency
from a stored name gives that same currency, so a saved currency, pair or market names the same currencies
when it is read back. -/
theorem C20_ccy_stored_name_reloads (name c : String) (h : ccyTryNew name = some c) : ccyTryNew c = some c := by
  obtain ⟨h1, h2⟩ := ccyTryNew_spec name c h
  unfold ccyTryNew
  simp only
  rw [h1, lowerStr_idem, ← h1, if_pos h2]

/-- `FXPair::try_new`: two valid, DISTINCT currencies. -/
theorem C20_fxpair_try_new (l r a b : String) (h : fxPairTryNew l r = some (a, b)) :
    ccyTryNew l = some a ∧ ccyTryNew r = some b ∧ a ≠ b := by
  unfold fxPairTryNew at h
  split at h
  case h_2 => cases h
  split at h
  case isTrue => cases h
  cases h
  exact ⟨‹ccyTryNew l = some a›, ‹ccyTryNew r = some b›, ‹¬ a = b›⟩

/-- `FXPair::try_new` accepts a pair EXACTLY when both codes have three bytes after lower-casing and differ
after lower-casing; in particular two spellings of one currency ("USD"/"usd", "Äb"/"äb") never make a pair. -/
theorem C20_fxpair_accepts_iff (l r : String) :
    (fxPairTryNew l r).isSome ↔
      ((lowerStr l).utf8ByteSize = 3 ∧ (lowerStr r).utf8ByteSize = 3 ∧ lowerStr l ≠ lowerStr r) := by
  unfold fxPairTryNew ccyTryNew
  simp only
  by_cases h1 : (lowerStr l).utf8ByteSize = 3 <;> by_cases h2 : (lowerStr r).utf8ByteSize = 3 <;>
    by_cases h3 : lowerStr l = lowerStr r <;> simp [h1, h2, h3]

theorem C20_fxpair_self_rejected (l r : String) (h : lowerStr l = lowerStr r) : fxPairTryNew l r = none :=
  Option.not_isSome_iff_eq_none.mp fun hs => ((C20_fxpair_accepts_iff l r).mp hs).2.2 h

end Currencies

/-! the character table on cased letters inside and outside ASCII, and on uncased neighbours -/
example : lowerChar 'A' = 'a' ∧ lowerChar 'Z' = 'z' ∧ lowerChar '@' = '@' ∧ lowerChar '[' = '[' := by decide
example : lowerChar 'Ä' = 'ä' ∧ lowerChar 'Þ' = 'þ' ∧ lowerChar '×' = '×' ∧ lowerChar 'ß' = 'ß' := by decide
example : lowerChar 'Д' = 'д' ∧ lowerChar 'Ѐ' = 'ѐ' ∧ lowerChar 'Я' = 'я' ∧ lowerChar 'я' = 'я' := by decide

/-- `NamedCal::try_new` has no abort path: every string gives a calendar or an error. -/
theorem C20_named_try_new (table : String → Option Cal) (name : String) :
    (∃ r, namedTryNew table name = .ok r) ∨ namedTryNew table name = .err := by
  unfold namedTryNew
  simp only
  split
  · split
    · exact Or.inr rfl
    · exact Or.inl ⟨_, rfl⟩
  · split
    · exact Or.inr rfl
    · split
      · exact Or.inr rfl
      · exact Or.inl ⟨_, rfl⟩
  · exact Or.inr rfl

section FX
variable {α : Type} [Add α] [Sub α] [Mul α] [Div α] [Neg α] [OfNat α 0] [OfNat α 1] [OfNat α 2]
  [Transc α]

/-- `FXRates::try_new`: a market that is returned has exactly one more currency than quotes, keeps the
quotes it was given, and holds its matrix at the default first order. -/
theorem C20_fxrates_try_new (quotes : List (FXQuote α)) (base : Option String) (f : FXRates α)
    (h : FXRates.tryNew quotes base = .ok f) :
    f.quotes = quotes ∧ f.currencies = fxCurrencies quotes base ∧
    f.currencies.length = f.quotes.length + 1 ∧ f.arr.ad = .one :=
  FXRates.tryNew_spec quotes base f h

end FX

section Spline
variable {α : Type} [Add α] [Sub α] [Mul α] [Div α] [Neg α] [OfNat α 0] [OfNat α 1] [OfNat α 2]
  [Transc α]
variable {τ : Type} [ModOps α τ]

omit [OfNat α 2] in
/-- `csolve` returns an error for mismatched lengths and otherwise a spline with the SAME order and
knots and exactly `n` coefficients — whatever the sites and data are (singular, repeated, non-finite:
the solver has no abort path; `argabsmax` orders incomparable magnitudes as equal). -/
theorem C20_csolve (s : PPSpline α τ) (tau : List α) (y : List τ) (l r : Nat) (lsq : Bool) :
    (s.csolve tau y l r lsq = none ↔
      ((tau.length ≠ s.n ∧ ¬ (lsq = true ∧ tau.length > s.n)) ∨ tau.length ≠ y.length)) ∧
    (∀ s', s.csolve tau y l r lsq = some s' →
      s'.k = s.k ∧ s'.t = s.t ∧ ∃ cs, s'.c = some cs ∧ cs.length = s.n) := by
  unfold PPSpline.csolve
  have hb : (decide (tau.length ≠ s.n) && !(lsq && decide (tau.length > s.n))) = true ↔
      (tau.length ≠ s.n ∧ ¬ (lsq = true ∧ tau.length > s.n)) := by cases lsq <;> simp
  rw [if_congr hb rfl rfl]
  split
  · next h1 => exact ⟨iff_of_true rfl (Or.inl h1), fun _ h => nomatch h⟩
  split
  · next h2 => exact ⟨iff_of_true rfl (Or.inr h2), fun _ h => nomatch h⟩
  · next h1 h2 =>
    refine ⟨iff_of_false (fun h => nomatch h) (fun h => h.elim h1 h2), fun s' h => ?_⟩
    cases h
    exact ⟨rfl, rfl, _, rfl, by simp⟩

end Spline

section Loading
open Load

/-- the shape invariants of everything the tagged entry point can return -/
def ShapeOK (table : String → Option Cal) : Loaded → Prop
  | .dual s => s.nvars = s.ndual
  | .dual2 s => s.nvars = s.ndual ∧ s.rows = s.nvars ∧ s.cols = s.nvars
  | .spline _ s => 2 ≤ s.t ∧ s.k ≤ s.t ∧ s.n = s.t - s.k ∧ ∀ l, s.c = some l → l = s.n
  | .fxRates s => s.currencies.length = s.nquotes + 1 ∧ ∀ c ∈ s.currencies, c.utf8ByteSize = 3
  | .namedCal nm => ∃ name u, namedTryNew table name = .ok (nm, u)
  | .cal _ => True
  | .unionCal _ _ => True
  | .curve s => NodesOK s.nodes ∧ s.interpolator ∈ interpolatorNames ∧ s.convention ∈ conventionNames ∧
      s.modifier ∈ modifierNames ∧ s.calendar ∈ ["Cal", "UnionCal", "NamedCal"]

/-- A dual number loaded from ANY JSON tree has as many sensitivities as names. -/
theorem C20_load_dual (j : JVal) (s : DualShape) (h : loadDual j = some s) : s.nvars = s.ndual :=
  loadDual_spec j s h

/-- …and a second-order one also has a square Hessian of that size. -/
theorem C20_load_dual2 (j : JVal) (s : Dual2Shape) (h : loadDual2 j = some s) :
    s.nvars = s.ndual ∧ s.rows = s.nvars ∧ s.cols = s.nvars :=
  loadDual2_spec j s h

/-- A spline loaded from any JSON tree has at least two knots, `n = len(t) − k`, and `n`
coefficients if it has any (for each of the three coefficient types). -/
theorem C20_load_spline {α : Type} (elem : JVal → Option α) (j : JVal) (s : SplineShape)
    (h : loadSpline elem j = some s) :
    2 ≤ s.t ∧ s.k ≤ s.t ∧ s.n = s.t - s.k ∧ (∀ l, s.c = some l → l = s.n) := by
  unfold loadSpline at h
  split at h
  case h_2 => cases h
  obtain ⟨v, _, hv⟩ := req_some _ _ _ h
  obtain ⟨k, t, c, n, hk⟩ := loadSplineInner_spec elem v s hv
  obtain ⟨⟨ht, _, hkt, hn, hc⟩, rfl⟩ := (validSpline_eq_some_iff k t c n s).mp hk
  exact ⟨ht, hkt, hn, hc⟩

/-- An FX market loaded from any JSON tree has one more currency than quotes, and every currency is
a three-byte code. -/
theorem C20_load_fxrates (j : JVal) (s : FXShape) (h : loadFXRates j = some s) :
    s.currencies.length = s.nquotes + 1 ∧ ∀ c ∈ s.currencies, c.utf8ByteSize = 3 := by
  unfold loadFXRates at h
  split at h
  case h_2 => cases h
  split at h
  case h_2 => cases h
  obtain ⟨vq, _, hvq⟩ := req_some _ _ _ ‹req (asVec loadFXRate) _ = some _›
  obtain ⟨vc, _, hvc⟩ := req_some _ _ _ ‹req (asVec loadCcy) _ = some _›
  exact validFXRates_spec _ _ s
    (asVec_forall (fun a q ha => ⟨(loadFXRate_spec a q ha).1, (loadFXRate_spec a q ha).2.1⟩) hvq)
    (fun c hc => asVec_forall loadCcy_spec hvc c ((mem_dedup _ _).mp hc)) h

/-- A named calendar loaded from any JSON tree is one that `NamedCal::try_new` accepts. -/
theorem C20_load_named (table : String → Option Cal) (j : JVal) (nm : String)
    (h : loadNamedCal table j = some nm) : ∃ name u, namedTryNew table name = .ok (nm, u) := by
  unfold loadNamedCal at h
  split at h
  case h_2 => cases h
  split at h
  case h_2 => cases h
  split at h
  case h_2 => cases h
  cases h
  exact ⟨_, _, ‹namedTryNew table _ = .ok _›⟩

/-- A curve loaded from any JSON tree: every dual-number node passed its validating model (names =
sensitivities, square Hessian), and rule, convention, modifier and calendar kind are ones the library defines.
(There is no further validation: an empty node set loads.) -/
theorem C20_load_curve (table : String → Option Cal) (j : JVal) (s : CurveShape)
    (h : loadCurve table j = some s) :
    NodesOK s.nodes ∧ s.interpolator ∈ interpolatorNames ∧ s.convention ∈ conventionNames ∧
    s.modifier ∈ modifierNames ∧ s.calendar ∈ ["Cal", "UnionCal", "NamedCal"] := by
  unfold loadCurve at h
  split at h
  case h_2 => cases h
  obtain ⟨ji, _, hi⟩ := req_some _ _ _ h
  unfold loadCurveDF at hi
  split at hi
  case h_2 => cases hi
  split at hi
  case h_2 => cases hi
  rename_i hn hi' _ hc hm _ hk
  injection hi with hi
  subst hi
  obtain ⟨jn, _, hjn⟩ := req_some _ _ _ hn
  obtain ⟨jI, _, hjI⟩ := req_some _ _ _ hi'
  obtain ⟨jc, _, hjc⟩ := req_some _ _ _ hc
  obtain ⟨jm, _, hjm⟩ := req_some _ _ _ hm
  obtain ⟨jk, _, hjk⟩ := req_some _ _ _ hk
  exact ⟨loadNodes_spec jn _ hjn, loadInterpolator_mem jI _ hjI, unitEnumOf_mem _ jc _ hjc,
    unitEnumOf_mem _ jm _ hjm, loadCalType_mem table jk _ hjk⟩

/-- what the tagged entry point may do: fail, or return a well-shaped value -/
def Loads (table : String → Option Cal) (r : Outcome Loaded) : Prop :=
  r = .err ∨ ∃ l, r = .ok l ∧ ShapeOK table l

theorem Loads.ofOpt {table : String → Option Cal} {α : Type} {f : α → Loaded} {o : Option α}
    (h : ∀ a, o = some a → ShapeOK table (f a)) : Loads table (ofOpt f o) := by
  cases o with
  | none => exact Or.inl rfl
  | some a => exact Or.inr ⟨_, rfl, h a rfl⟩

theorem Loads.ite {table : String → Option Cal} {c : Prop} [Decidable c] {a b : Outcome Loaded}
    (ha : Loads table a) (hb : Loads table b) : Loads table (if c then a else b) := by
  split <;> assumption

/-- THE LOADING THEOREM: for every JSON tree the tagged entry point returns an error or a value
satisfying its type's shape invariants; it has no abort path. -/
theorem C20_load_tagged (table : String → Option Cal) (j : JVal) :
    loadTagged table j = .err ∨ ∃ l, loadTagged table j = .ok l ∧ ShapeOK table l := by
  show Loads table _
  unfold loadTagged
  cases enumOf j with
  | none => exact Or.inl rfl
  | some tv =>
    -- one lemma per `if`: each `split` on a nested chain simplifies the rest of the chain again (2^10 here)
    exact .ite (.ofOpt (C20_load_dual tv.2)) <| .ite (.ofOpt (C20_load_dual2 tv.2)) <|
      .ite (.ofOpt fun _ _ => trivial) <| .ite (.ofOpt fun _ _ => trivial) <|
      .ite (.ofOpt (C20_load_named table tv.2)) <| .ite (.ofOpt (C20_load_fxrates tv.2)) <|
      .ite (.ofOpt (C20_load_spline _ tv.2)) <| .ite (.ofOpt (C20_load_spline _ tv.2)) <|
      .ite (.ofOpt (C20_load_spline _ tv.2)) <| .ite (.ofOpt (C20_load_curve table tv.2)) (Or.inl rfl)

/-- The per-type entry points (`NamedCal::from_json`, `Cal::from_json`, `UnionCal::from_json`,
`FXRates::from_json`, `serde_json::from_str::<Dual>` …) reach the same derived `Deserialize` as the tagged
entry point does through its variant: a document `body` read as type `tag` is the tagged loader on
`{tag: body}` — an error or a value whose shape invariants hold, for every JSON tree, with no abort path. -/
theorem C20_load_typed (table : String → Option Cal) (tag : String) (body : JVal) :
    loadTagged table (.obj [(tag, body)]) = .err ∨
      ∃ l, loadTagged table (.obj [(tag, body)]) = .ok l ∧ ShapeOK table l :=
  C20_load_tagged table _

end Loading

/-! ### Non-vacuity: concrete documents and calls (these are tests of the model, labelled as such).
A well-formed Dual loads; the shape-invalid one (one name, two sensitivities) passes serde's derive
(`rawDual`) and is refused by the validating data model; duplicated names collapse; a duplicated field is
an error, an unknown one is skipped, the positional form is accepted; splines with a wrong `n` or
unsorted knots are refused; −128 calendar days and a −128 business-day lag are computed. -/
section Examples
open Load
def jOne : JVal := .num ⟨false, 1, 0, true⟩
def jTwo : JVal := .num ⟨false, 2, 0, true⟩
def jNd (dim : JVal) (data : List JVal) : JVal := .obj [("v", jOne), ("dim", .arr [dim]), ("data", .arr data)]
def exDual (names : List JVal) (dim : JVal) (data : List JVal) : JVal :=
  .obj [("real", .num ⟨false, 15, -1, false⟩), ("vars", .arr names), ("dual", jNd dim data)]
example : loadDual (exDual [.str "x"] jOne [jOne]) = some ⟨1, 1⟩ := by decide
example : rawDual (exDual [.str "x"] jTwo [jOne, jTwo]) = some ⟨1, 2⟩ ∧
    loadDual (exDual [.str "x"] jTwo [jOne, jTwo]) = none := by decide
example : rawDual (exDual [.str "x", .str "x"] jTwo [jOne, jTwo]) = some ⟨1, 2⟩ := by decide
example : loadDual (exDual [.str "x"] jTwo [jOne]) = none := by decide
example : loadDual (.obj [("real", jOne), ("real", jOne), ("vars", .arr []),
    ("dual", jNd (.num ⟨false, 0, 0, true⟩) [])]) = none := by decide
example : loadDual (.obj [("extra", .null), ("real", jOne), ("vars", .arr []),
    ("dual", jNd (.num ⟨false, 0, 0, true⟩) [])]) = some ⟨0, 0⟩ := by decide
example : loadDual (.arr [jOne, .arr [], jNd (.num ⟨false, 0, 0, true⟩) []]) = some ⟨0, 0⟩ := by decide
def exCurve (key : String) (conv : JVal) : JVal :=
  .obj [("inner", .obj [("nodes", .obj [("F64", .obj [("0", jOne), (key, jTwo), ("0", jTwo)])]),
    ("interpolator", .obj [("Linear", .obj [])]), ("id", .str "c"), ("convention", conv),
    ("modifier", .obj [("ModF", .null)]), ("index_base", .null),
    ("calendar", .obj [("Cal", .obj [("holidays", .arr []), ("week_mask", .arr [])])])])]
/-- a curve document loads (repeated key collapses, unit variants in both spellings); a key that is not an
`i64` literal, or an unknown convention, is an error -/
example : (loadCurve (fun _ => none) (exCurve "86400" (.str "Act360"))).map (fun s => (s.nodes, s.convention))
    = some (.f64 2, "Act360") := by decide +kernel
example : loadCurve (fun _ => none) (exCurve "086400" (.str "Act360")) = none := by decide +kernel
example : loadCurve (fun _ => none) (exCurve "-0" (.str "Act360")) = none := by decide +kernel
example : loadCurve (fun _ => none) (exCurve "9223372036854775808" (.str "Act360")) = none := by
  decide +kernel
example : loadCurve (fun _ => none) (exCurve "1" (.str "Act361")) = none := by decide +kernel
def exSpline (n : JVal) (t : List JVal) : JVal :=
  .obj [("inner", .obj [("k", jTwo), ("t", .arr t), ("c", .null), ("n", n)])]
example : loadSpline asF64 (exSpline jOne [jOne, jOne, jTwo]) = some ⟨2, 3, 1, none⟩ := by decide
example : loadSpline asF64 (exSpline jTwo [jOne, jOne, jTwo]) = none := by decide
example : loadSpline asF64 (exSpline jOne [jOne, jTwo, jOne]) = none := by decide
example : loadTagged (fun _ => none) (.obj [("Dual", exDual [.str "x"] jOne [jOne])])
    = .ok (.dual ⟨1, 1⟩) := by decide
example : exCal5.addDays 50 19810 (-128) .p false = .ok (some 19682) := by decide
example : exCal5.lag 50 19812 (-128) false = .ok (exCal5.stepBwd 50 127 19810) := by decide +kernel
end Examples

end Rateslib
