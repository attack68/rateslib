/-
C07  Built-in holiday calendars agree with their published rules.

The constants `Gen.*` are REGENERATED on every run from the running code (harness `dump tables`:
get_calendar_by_name for each name, then is_weekday / is_holiday on each of the 84 371 dates
1970-01-01..2200-12-31), from the get_calendar docstring and from the nine fixing CSV files; the
kernel re-checks every theorem below against what the code says now (`decide +kernel`, no axioms
beyond the three standard ones).  `Gen.wdHols_x` = ascending day numbers of the holidays of "x" that
fall on a working weekday, so "d is reported a holiday on a weekday" is `d ∈ Gen.wdHols_x`.
-/
import RateslibModel.Proofs.Holidays
import RateslibModel.Proofs.C07.All
import RateslibModel.Proofs.C07.FedNyc
import RateslibModel.Proofs.C07.DocNames
namespace Rateslib

/-- Reading of the rule tables: `d ∈ ruleDates rs` iff `d` is a Monday–Friday of 1970..2200 that is an
observed date of some rule of `rs` for some reference year. -/
theorem C07_rule_semantics (rs : List Rule) (d : Int) :
    d ∈ ruleDates rs ↔
      (rangeLo ≤ d ∧ d ≤ rangeHi ∧ isMonFri d = true ∧ ∃ y ∈ refYears, ∃ r ∈ rs, d ∈ r.dates y) :=
  mem_ruleDates rs d

/-- "tgt": every weekday from 1970 to 2200 is reported as a holiday exactly when the published rules
make it one; the working week is Monday–Friday. -/
theorem C07_full_tgt (d : Int) :
    (d ∈ Gen.wdHols_tgt ↔
      (rangeLo ≤ d ∧ d ≤ rangeHi ∧ isMonFri d = true ∧ ∃ y ∈ refYears, ∃ r ∈ tgtRules, d ∈ r.dates y))
    ∧ Gen.mask_tgt = [5, 6] :=
  mem_table_iff C07.full_tgt d

/-- "nyc": every weekday from 1970 to 2200 is reported as a holiday exactly when the published rules
make it one; the working week is Monday–Friday. -/
theorem C07_full_nyc (d : Int) :
    (d ∈ Gen.wdHols_nyc ↔
      (rangeLo ≤ d ∧ d ≤ rangeHi ∧ isMonFri d = true ∧ ∃ y ∈ refYears, ∃ r ∈ nycRules, d ∈ r.dates y))
    ∧ Gen.mask_nyc = [5, 6] :=
  mem_table_iff C07.full_nyc d

/-- "fed": every weekday from 1970 to 2200 is reported as a holiday exactly when the published rules
make it one; the working week is Monday–Friday. -/
theorem C07_full_fed (d : Int) :
    (d ∈ Gen.wdHols_fed ↔
      (rangeLo ≤ d ∧ d ≤ rangeHi ∧ isMonFri d = true ∧ ∃ y ∈ refYears, ∃ r ∈ fedRules, d ∈ r.dates y))
    ∧ Gen.mask_fed = [5, 6] :=
  mem_table_iff C07.full_fed d

/-- "ldn": every weekday from 1970 to 2200 is reported as a holiday exactly when the published rules
make it one; the working week is Monday–Friday. -/
theorem C07_full_ldn (d : Int) :
    (d ∈ Gen.wdHols_ldn ↔
      (rangeLo ≤ d ∧ d ≤ rangeHi ∧ isMonFri d = true ∧ ∃ y ∈ refYears, ∃ r ∈ ldnRules, d ∈ r.dates y))
    ∧ Gen.mask_ldn = [5, 6] :=
  mem_table_iff C07.full_ldn d

/-- "stk": every weekday from 1970 to 2200 is reported as a holiday exactly when the published rules
make it one; the working week is Monday–Friday. -/
theorem C07_full_stk (d : Int) :
    (d ∈ Gen.wdHols_stk ↔
      (rangeLo ≤ d ∧ d ≤ rangeHi ∧ isMonFri d = true ∧ ∃ y ∈ refYears, ∃ r ∈ stkRules, d ∈ r.dates y))
    ∧ Gen.mask_stk = [5, 6] :=
  mem_table_iff C07.full_stk d

/-- "osl": every weekday from 1970 to 2200 is reported as a holiday exactly when the published rules
make it one; the working week is Monday–Friday. -/
theorem C07_full_osl (d : Int) :
    (d ∈ Gen.wdHols_osl ↔
      (rangeLo ≤ d ∧ d ≤ rangeHi ∧ isMonFri d = true ∧ ∃ y ∈ refYears, ∃ r ∈ oslRules, d ∈ r.dates y))
    ∧ Gen.mask_osl = [5, 6] :=
  mem_table_iff C07.full_osl d

/-- "zur": every weekday from 1970 to 2200 is reported as a holiday exactly when the published rules
make it one; the working week is Monday–Friday. -/
theorem C07_full_zur (d : Int) :
    (d ∈ Gen.wdHols_zur ↔
      (rangeLo ≤ d ∧ d ≤ rangeHi ∧ isMonFri d = true ∧ ∃ y ∈ refYears, ∃ r ∈ zurRules, d ∈ r.dates y))
    ∧ Gen.mask_zur = [5, 6] :=
  mem_table_iff C07.full_zur d

/-- 'all' and 'bus' have no holidays (and 'all' has no weekend). -/
theorem C07_all_bus :
    Gen.wdHols_all = [] ∧ Gen.weHols_all = [] ∧ Gen.mask_all = [] ∧
    Gen.wdHols_bus = [] ∧ Gen.weHols_bus = [] ∧ Gen.mask_bus = [5, 6] := C07.all_bus

/-- 'fed' is the 'nyc' calendar without Good Friday. -/
theorem C07_fed_is_nyc_minus_good_friday :
    Gen.wdHols_fed = Gen.wdHols_nyc.filter (fun d => !C07.goodFridays.contains d)
    ∧ Gen.mask_fed = Gen.mask_nyc := C07.fed_is_nyc_minus_good_friday

/-- "tro": every weekday occurrence of its documented fixed-date and Easter-linked holidays is a holiday. -/
theorem C07_partial_tro (d : Int) (h : d ∈ ruleDates troPartial) : d ∈ Gen.wdHols_tro :=
  subsetSorted_sound _ _ C07.partial_tro.1 d h

/-- "tyo": every weekday occurrence of its documented fixed-date and Easter-linked holidays is a holiday. -/
theorem C07_partial_tyo (d : Int) (h : d ∈ ruleDates tyoPartial) : d ∈ Gen.wdHols_tyo :=
  subsetSorted_sound _ _ C07.partial_tyo.1 d h

/-- "syd": every weekday occurrence of its documented fixed-date and Easter-linked holidays is a holiday. -/
theorem C07_partial_syd (d : Int) (h : d ∈ ruleDates sydPartial) : d ∈ Gen.wdHols_syd :=
  subsetSorted_sound _ _ C07.partial_syd.1 d h

/-- "wlg": every weekday occurrence of its documented fixed-date and Easter-linked holidays is a holiday. -/
theorem C07_partial_wlg (d : Int) (h : d ∈ ruleDates wlgPartial) : d ∈ Gen.wdHols_wlg :=
  subsetSorted_sound _ _ C07.partial_wlg.1 d h

/-- "mum": every weekday occurrence of its documented fixed-date and Easter-linked holidays is a holiday. -/
theorem C07_partial_mum (d : Int) (h : d ∈ ruleDates mumPartial) : d ∈ Gen.wdHols_mum :=
  subsetSorted_sound _ _ C07.partial_mum.1 d h

/-- Every calendar name listed in the documentation resolves. -/
theorem C07_doc_names_resolve :
    (Gen.docNameResolution.map Prod.snd).all id = true ∧ Gen.docNameResolution.length ≥ 1 :=
  C07.doc_names_resolve

theorem C07_builtin_names_resolve :
    [Gen.resolves_all, Gen.resolves_bus, Gen.resolves_nyc, Gen.resolves_fed, Gen.resolves_tgt,
     Gen.resolves_ldn, Gen.resolves_stk, Gen.resolves_osl, Gen.resolves_zur, Gen.resolves_tro,
     Gen.resolves_tyo, Gen.resolves_syd, Gen.resolves_wlg, Gen.resolves_mum].all id = true :=
  C07.builtin_names_resolve

/-- usd/nyc: over the period covered by the fixing history the calendar's business days are exactly
the publication dates (`busDaysCheck` walks every day from the first to the last publication date and
requires each business day to be the next publication date, and nothing to be left over). -/
theorem C07_fixings_usd :
    Gen.fixingDates_usd ≠ [] ∧
    busDaysCheck Gen.mask_nyc
      ((Gen.fixingDates_usd.getLast?.getD 0 - Gen.fixingDates_usd.headD 0 + 1).toNat)
      (Gen.fixingDates_usd.headD 0) Gen.wdHols_nyc Gen.fixingDates_usd = true := C07.fixings_usd

/-- gbp/ldn: over the period covered by the fixing history the calendar's business days are exactly
the publication dates (`busDaysCheck` walks every day from the first to the last publication date and
requires each business day to be the next publication date, and nothing to be left over). -/
theorem C07_fixings_gbp :
    Gen.fixingDates_gbp ≠ [] ∧
    busDaysCheck Gen.mask_ldn
      ((Gen.fixingDates_gbp.getLast?.getD 0 - Gen.fixingDates_gbp.headD 0 + 1).toNat)
      (Gen.fixingDates_gbp.headD 0) Gen.wdHols_ldn Gen.fixingDates_gbp = true := C07.fixings_gbp

/-- cad/tro: over the period covered by the fixing history the calendar's business days are exactly
the publication dates (`busDaysCheck` walks every day from the first to the last publication date and
requires each business day to be the next publication date, and nothing to be left over). -/
theorem C07_fixings_cad :
    Gen.fixingDates_cad ≠ [] ∧
    busDaysCheck Gen.mask_tro
      ((Gen.fixingDates_cad.getLast?.getD 0 - Gen.fixingDates_cad.headD 0 + 1).toNat)
      (Gen.fixingDates_cad.headD 0) Gen.wdHols_tro Gen.fixingDates_cad = true := C07.fixings_cad

/-- eur/tgt: over the period covered by the fixing history the calendar's business days are exactly
the publication dates (`busDaysCheck` walks every day from the first to the last publication date and
requires each business day to be the next publication date, and nothing to be left over). -/
theorem C07_fixings_eur :
    Gen.fixingDates_eur ≠ [] ∧
    busDaysCheck Gen.mask_tgt
      ((Gen.fixingDates_eur.getLast?.getD 0 - Gen.fixingDates_eur.headD 0 + 1).toNat)
      (Gen.fixingDates_eur.headD 0) Gen.wdHols_tgt Gen.fixingDates_eur = true := C07.fixings_eur

/-- jpy/tyo: over the period covered by the fixing history the calendar's business days are exactly
the publication dates (`busDaysCheck` walks every day from the first to the last publication date and
requires each business day to be the next publication date, and nothing to be left over). -/
theorem C07_fixings_jpy :
    Gen.fixingDates_jpy ≠ [] ∧
    busDaysCheck Gen.mask_tyo
      ((Gen.fixingDates_jpy.getLast?.getD 0 - Gen.fixingDates_jpy.headD 0 + 1).toNat)
      (Gen.fixingDates_jpy.headD 0) Gen.wdHols_tyo Gen.fixingDates_jpy = true := C07.fixings_jpy

/-- sek/stk: over the period covered by the fixing history the calendar's business days are exactly
the publication dates (`busDaysCheck` walks every day from the first to the last publication date and
requires each business day to be the next publication date, and nothing to be left over). -/
theorem C07_fixings_sek :
    Gen.fixingDates_sek ≠ [] ∧
    busDaysCheck Gen.mask_stk
      ((Gen.fixingDates_sek.getLast?.getD 0 - Gen.fixingDates_sek.headD 0 + 1).toNat)
      (Gen.fixingDates_sek.headD 0) Gen.wdHols_stk Gen.fixingDates_sek = true := C07.fixings_sek

/-- nok/osl: over the period covered by the fixing history the calendar's business days are exactly
the publication dates (`busDaysCheck` walks every day from the first to the last publication date and
requires each business day to be the next publication date, and nothing to be left over). -/
theorem C07_fixings_nok :
    Gen.fixingDates_nok ≠ [] ∧
    busDaysCheck Gen.mask_osl
      ((Gen.fixingDates_nok.getLast?.getD 0 - Gen.fixingDates_nok.headD 0 + 1).toNat)
      (Gen.fixingDates_nok.headD 0) Gen.wdHols_osl Gen.fixingDates_nok = true := C07.fixings_nok

/-- aud/syd: over the period covered by the fixing history the calendar's business days are exactly
the publication dates (`busDaysCheck` walks every day from the first to the last publication date and
requires each business day to be the next publication date, and nothing to be left over). -/
theorem C07_fixings_aud :
    Gen.fixingDates_aud ≠ [] ∧
    busDaysCheck Gen.mask_syd
      ((Gen.fixingDates_aud.getLast?.getD 0 - Gen.fixingDates_aud.headD 0 + 1).toNat)
      (Gen.fixingDates_aud.headD 0) Gen.wdHols_syd Gen.fixingDates_aud = true := C07.fixings_aud

/-- inr/mum: over the period covered by the fixing history the calendar's business days are exactly
the publication dates (`busDaysCheck` walks every day from the first to the last publication date and
requires each business day to be the next publication date, and nothing to be left over). -/
theorem C07_fixings_inr :
    Gen.fixingDates_inr ≠ [] ∧
    busDaysCheck Gen.mask_mum
      ((Gen.fixingDates_inr.getLast?.getD 0 - Gen.fixingDates_inr.headD 0 + 1).toNat)
      (Gen.fixingDates_inr.headD 0) Gen.wdHols_mum Gen.fixingDates_inr = true := C07.fixings_inr

/-! Non-vacuity: the rules generate what one expects on known dates. -/
example : easterDay 2024 = toDay 2024 3 31 := by decide
example : toDay 2024 3 29 ∈ ruleDates nycRules :=      -- Good Friday 2024
  (mem_ruleDates _ _).2 ⟨by decide, by decide, by decide, 2024, by decide +kernel, goodFriday, by decide, by decide⟩
example : ¬ toDay 2024 3 29 ∈ ruleDates fedRules :=   -- `ruleDates fedRules` is the table already evaluated
  C07.full_fed.1 ▸ by decide +kernel
example : toDay 2022 6 20 ∈ ruleDates fedRules :=      -- Juneteenth observed (Sunday → Monday)
  (mem_ruleDates _ _).2 ⟨by decide, by decide, by decide, 2022, by decide +kernel,
    { fx 6 19 .sundayToMonday with start := some (toDay 2022 1 1) }, by decide, by decide⟩
example : toDay 2020 5 8 ∈ ruleDates ldnRules ∧ ¬ toDay 2020 5 4 ∈ ruleDates ldnRules :=   -- VE day 2020
  ⟨(mem_ruleDates _ _).2 ⟨by decide, by decide, by decide, 2020, by decide +kernel, once 2020 5 8, by decide,
      by decide⟩,
    C07.full_ldn.1 ▸ by decide +kernel⟩

end Rateslib
