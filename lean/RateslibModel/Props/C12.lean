/-
C12  Curve values carry exact sensitivities to their nodes at every derivative order.
-/
import RateslibModel.Props.C11
import RateslibModel.Proofs.InterpJets
namespace Rateslib
open Expr
open Rateslib.Dual

section Generic
variable {α : Type} [Add α] [Sub α] [Mul α] [Div α] [Neg α] [OfNat α 0] [OfNat α 1] [OfNat α 2]
  [Transc α]

/-- the float values of the nodes -/
def NodeVals.reals : NodeVals α → List α
  | .f64 v => v | .dual v => v.map (·.real) | .dual2 v => v.map (·.real)

theorem map_zip_range_snd {β γ : Type} (v : List β) (f : Nat × β → γ) (g : β → γ)
    (h : ∀ p, f p = g p.2 ∨ True) (hf : ∀ i x, f (i, x) = g x) :
    ((List.range v.length).zip v).map f = v.map g := by
  apply List.ext_getElem (by simp)
  intro i h1 h2
  simp [hf]

/-- Switching derivative order never changes any node value, bit for bit (every scalar type). -/
theorem C12_node_values_invariant (c : Curve α) (k : ADOrder) :
    (c.setAdOrder k).vals.reals = c.vals.reals ∧ (c.setAdOrder k).keys = c.keys := by
  refine ⟨?_, rfl⟩
  unfold Curve.setAdOrder
  cases hv : c.vals with
  | f64 v =>
    -- orders one and two tag each float by its position; the value part of the tagged number is the float
    have tag {τ : Type} (f : Nat × α → τ) (r : τ → α) (h : ∀ i x, r (f (i, x)) = x) :
        (((List.range v.length).zip v).map f).map r = v := by
      rw [List.map_map]
      exact (map_zip_range_snd v _ id (fun _ => .inr trivial) h).trans (List.map_id v)
    cases k with
    | zero => rfl
    | one => exact tag _ _ fun _ _ => rfl
    | two => exact tag _ _ fun _ _ => rfl
  | dual v =>
    cases k with
    | zero => rfl
    | one => rfl
    | two => exact List.map_map
  | dual2 v =>
    cases k with
    | zero => rfl
    | one => exact List.map_map
    | two => rfl

/-- …hence any sequence of switches keeps every node value and date. -/
theorem C12_values_invariant (c : Curve α) (ks : List ADOrder) :
    (ks.foldl Curve.setAdOrder c).vals.reals = c.vals.reals ∧ (ks.foldl Curve.setAdOrder c).keys = c.keys := by
  induction ks generalizing c with
  | nil => exact ⟨rfl, rfl⟩
  | cons k ks ih =>
    obtain ⟨h1, h2⟩ := ih (c.setAdOrder k)
    obtain ⟨g1, g2⟩ := C12_node_values_invariant c k
    exact ⟨h1.trans g1, h2.trans g2⟩

/-- Switching a float-valued curve to first (second) order tags the i-th node in date order,
counting from 0, with the single variable `<curve id><i>` and unit sensitivity (zero Hessian). -/
theorem C12_tags (c : Curve α) (v : List α) (hv : c.vals = .f64 v) (hk : c.keys.length = v.length) :
    (c.setAdOrder .one).vals =
      .dual (((List.range v.length).zip v).map (fun p => ⟨p.2, [c.id ++ toString p.1], [1]⟩)) ∧
    (c.setAdOrder .two).vals =
      .dual2 (((List.range v.length).zip v).map (fun p => ⟨p.2, [c.id ++ toString p.1], [1], [[0]]⟩)) := by
  simp only [Curve.setAdOrder, hv, hk]
  refine ⟨congrArg NodeVals.dual ?_, congrArg NodeVals.dual2 ?_⟩
  · refine map_zip_range_congr v _ _ fun i x hi => ?_
    simp only [getD_getVariableTags c.id hi]
    simp [Dual.new, dedup, onesV]
  · refine map_zip_range_congr v _ _ fun i x hi => ?_
    simp only [getD_getVariableTags c.id hi]
    simp [Dual2.new, dedup, onesV, zerosM, zerosV]

/-- Switches between first and second order keep the variable names (and sensitivities) already
present; lowering to order 0 keeps the values only. -/
theorem C12_keep_names (c : Curve α) (v1 : List (Dual α)) (v2 : List (Dual2 α)) :
    (c.vals = .dual v1 → (c.setAdOrder .two).vals
        = .dual2 (v1.map fun d => ⟨d.real, d.vars, d.dual, zerosM d.dual.length d.dual.length⟩)) ∧
    (c.vals = .dual2 v2 → (c.setAdOrder .one).vals = .dual (v2.map fun d => ⟨d.real, d.vars, d.dual⟩)) ∧
    (c.vals = .dual v1 → (c.setAdOrder .one).vals = .dual v1) ∧
    (c.vals = .dual2 v2 → (c.setAdOrder .two).vals = .dual2 v2) := by
  refine ⟨fun h => ?_, fun h => ?_, fun h => ?_, fun h => ?_⟩ <;> simp only [Curve.setAdOrder, h] <;> rfl

/-- The looked-up VALUE does not depend on the derivative order, bit for bit, for the three smooth
rules (the value part of every dual-number operation used is the float operation itself). -/
theorem C12_lookup_value_invariant (x1 x2 x0 x : α) (y1 y2 : Dual α) (z1 z2 : Dual2 α) :
    (linearInterp (α := α) x1 y1 x2 y2 x).real = linearInterp (α := α) (τ := α) x1 y1.real x2 y2.real x ∧
    (logLinearInterp (α := α) x1 y1 x2 y2 x).real = logLinearInterp (α := α) (τ := α) x1 y1.real x2 y2.real x ∧
    (linearZeroInterp (α := α) x0 x1 y1 x2 y2 x).real
      = linearZeroInterp (α := α) (τ := α) x0 x1 y1.real x2 y2.real x ∧
    (linearInterp (α := α) x1 z1 x2 z2 x).real = linearInterp (α := α) (τ := α) x1 z1.real x2 z2.real x ∧
    (logLinearInterp (α := α) x1 z1 x2 z2 x).real = logLinearInterp (α := α) (τ := α) x1 z1.real x2 z2.real x ∧
    (linearZeroInterp (α := α) x0 x1 z1 x2 z2 x).real
      = linearZeroInterp (α := α) (τ := α) x0 x1 z1.real x2 z2.real x :=
  ⟨(real_hom.linear x1 x2 x ⟨trivial, rfl⟩ ⟨trivial, rfl⟩).2,
    (real_hom.logLinear x1 x2 x ⟨trivial, rfl⟩ ⟨trivial, rfl⟩).2,
    (real_hom.zeroRate x0 x1 x2 x ⟨trivial, rfl⟩ ⟨trivial, rfl⟩).2,
    (real_hom2.linear x1 x2 x ⟨trivial, rfl⟩ ⟨trivial, rfl⟩).2,
    (real_hom2.logLinear x1 x2 x ⟨trivial, rfl⟩ ⟨trivial, rfl⟩).2,
    (real_hom2.zeroRate x0 x1 x2 x ⟨trivial, rfl⟩ ⟨trivial, rfl⟩).2⟩

/-- An index curve's index value is its base divided by the curve value, zero before the first
node, and an error without a base. -/
theorem C12_index_value (c : Curve α) (ts : Int) :
    (c.indexBase = none → c.indexValue ts = .err) ∧
    (∀ ib k0, c.indexBase = some ib → c.keys.head? = some k0 → ts < k0 → c.indexValue ts = .ok (.f64 0)) ∧
    (∀ ib k0 v, c.indexBase = some ib → c.keys.head? = some k0 → ¬ ts < k0 → c.value ts = some v →
      c.indexValue ts = .ok (fOpNumber .div ib v)) := by
  refine ⟨fun h => ?_, fun ib k0 h1 h2 h3 => ?_, fun ib k0 v h1 h2 h3 h4 => ?_⟩
  · simp [Curve.indexValue, h]
  · simp [Curve.indexValue, h1, h2, h3]
  · simp [Curve.indexValue, h1, h2, h3, h4]

end Generic

/-! `jetOf · v` and `dirJet α β v w` commute with the rules (`jetOf_hom`, `dirJet_hom`), and a rule evaluated on
jets with the operations of `JetOps` unfolds to `evalJ` (`evalJ2`) of the rule's formula. -/

section Jets
open JetOps

/-- the straight-line rule as a formula of C01's grammar over the two bracketing node values -/
noncomputable def linExpr (c : ℝ) : Expr := .add (.leaf 0) (.mul (.sub (.leaf 1) (.leaf 0)) (.const c))

/-- Gradient of a straight-line look-up: for every variable name, the reported sensitivity is the true
derivative of the interpolation formula when the two bracketing node values move with their own
sensitivities to that name — in particular `1 − t` and `t` with respect to the nodes' own tags. -/
theorem C12_grad_linear (x1 x2 x : ℝ) (y1 y2 : Dual ℝ) (h1 : y1.WF) (h2 : y2.WF) (v : String) :
    jetOf (linearInterp (α := ℝ) x1 y1 x2 y2 x) v
      = evalJ (linExpr ((x - x1) / (x2 - x1))) (fun i => if i = 0 then jetOf y1 v else jetOf y2 v) := by
  rw [((jetOf_hom v).linear x1 x2 x ⟨h1, rfl⟩ ⟨h2, rfl⟩).2]
  simp only [linExpr, evalJ]; rfl

/-- Nodes outside the interval used contribute nothing: the sensitivity of a straight-line look-up to a
name that neither bracketing node carries is zero. -/
theorem C12_local (x1 x2 x : ℝ) (y1 y2 : Dual ℝ) (h1 : y1.WF) (h2 : y2.WF) (n : String)
    (hn1 : n ∉ y1.vars) (hn2 : n ∉ y2.vars) :
    den (linearInterp (α := ℝ) x1 y1 x2 y2 x) n = 0 := by
  have e1 : den y1 n = 0 := lookup_not_mem _ _ _ hn1
  have e2 : den y2 n = 0 := lookup_not_mem _ _ _ hn2
  have := congrArg Prod.snd (C12_grad_linear x1 x2 x y1 y2 h1 h2 n)
  simpa [linExpr, evalJ, jetOf, e1, e2] using this

/-- the log-linear rule as a formula of C01's grammar -/
noncomputable def logLinExpr (c : ℝ) : Expr :=
  .exp (.add (.log (.leaf 0)) (.mul (.sub (.log (.leaf 1)) (.log (.leaf 0))) (.const c)))

/-- Gradient of a log-linear look-up = the C01 jet of the formula `exp(log y₁ + (log y₂ − log y₁)·c)`. -/
theorem C12_grad_log_linear (x1 x2 x : ℝ) (y1 y2 : Dual ℝ) (h1 : y1.WF) (h2 : y2.WF) (v : String) :
    jetOf (logLinearInterp (α := ℝ) x1 y1 x2 y2 x) v
      = evalJ (logLinExpr ((x - x1) / (x2 - x1))) (fun i => if i = 0 then jetOf y1 v else jetOf y2 v) := by
  rw [((jetOf_hom v).logLinear x1 x2 x ⟨h1, rfl⟩ ⟨h2, rfl⟩).2]
  simp only [logLinExpr, evalJ]; rfl

/-- the zero-rate rule as a formula of C01's grammar: `exp(−t · (r₁ + (r₂ − r₁)·c))`, `rᵢ = log yᵢ · aᵢ` -/
noncomputable def zeroRateExpr (a1 a2 c mt : ℝ) : Expr :=
  .exp (.mul (.add (.mul (.log (.leaf 0)) (.const a1))
      (.mul (.sub (.mul (.log (.leaf 1)) (.const a2)) (.mul (.log (.leaf 0)) (.const a1))) (.const c)))
    (.const mt))

/-- … and when the left node IS the first node (t₁ = 0): the right node's rate alone -/
noncomputable def zeroRateExpr0 (a2 mt : ℝ) : Expr :=
  .exp (.mul (.mul (.log (.leaf 1)) (.const a2)) (.const mt))

/-- Gradient of a zero-rate look-up = the C01 jet of the rule's formula (both branches). -/
theorem C12_grad_zero_rate (x0 x1 x2 x : ℝ) (y1 y2 : Dual ℝ) (h1 : y1.WF) (h2 : y2.WF) (v : String) :
    (x1 - x0 ≠ 0 →
      jetOf (linearZeroInterp (α := ℝ) x0 x1 y1 x2 y2 x) v
        = evalJ (zeroRateExpr (-1 / (x1 - x0)) (-1 / (x2 - x0))
            ((x - x0 - (x1 - x0)) / (x2 - x0 - (x1 - x0))) (-(x - x0)))
            (fun i => if i = 0 then jetOf y1 v else jetOf y2 v)) ∧
    (x1 - x0 = 0 →
      jetOf (linearZeroInterp (α := ℝ) x0 x1 y1 x2 y2 x) v
        = evalJ (zeroRateExpr0 (-1 / (x2 - x0)) (-(x - x0)))
            (fun i => if i = 0 then jetOf y1 v else jetOf y2 v)) := by
  rw [((jetOf_hom v).zeroRate x0 x1 x2 x ⟨h1, rfl⟩ ⟨h2, rfl⟩).2, linearZeroInterp_eq, eqb_real]
  simp only [zeroRateExpr, zeroRateExpr0, evalJ]
  exact ⟨fun h => by rw [decide_eq_false h]; rfl, fun h => by rw [decide_eq_true h]; rfl⟩

/-- Hessian (and gradient, and value) of a straight-line look-up on second-order nodes: along every
direction of two variable names, the 2-jet of the result is the 2-jet of the rule's formula. -/
theorem C12_hess_linear (x1 x2 x : ℝ) (y1 y2 : Dual2 ℝ) (h1 : y1.WF) (h2 : y2.WF) (α β : ℝ) (v w : String) :
    dirJet α β v w (linearInterp (α := ℝ) x1 y1 x2 y2 x)
      = evalJ2 (linExpr ((x - x1) / (x2 - x1)))
          (fun i => if i = 0 then dirJet α β v w y1 else dirJet α β v w y2) := by
  rw [((dirJet_hom α β v w).linear x1 x2 x ⟨h1, rfl⟩ ⟨h2, rfl⟩).2]
  simp only [linExpr, evalJ2]; rfl

theorem C12_hess_log_linear (x1 x2 x : ℝ) (y1 y2 : Dual2 ℝ) (h1 : y1.WF) (h2 : y2.WF) (α β : ℝ) (v w : String) :
    dirJet α β v w (logLinearInterp (α := ℝ) x1 y1 x2 y2 x)
      = evalJ2 (logLinExpr ((x - x1) / (x2 - x1)))
          (fun i => if i = 0 then dirJet α β v w y1 else dirJet α β v w y2) := by
  rw [((dirJet_hom α β v w).logLinear x1 x2 x ⟨h1, rfl⟩ ⟨h2, rfl⟩).2]
  simp only [logLinExpr, evalJ2]; rfl

theorem C12_hess_zero_rate (x0 x1 x2 x : ℝ) (y1 y2 : Dual2 ℝ) (h1 : y1.WF) (h2 : y2.WF) (α β : ℝ)
    (v w : String) :
    (x1 - x0 ≠ 0 →
      dirJet α β v w (linearZeroInterp (α := ℝ) x0 x1 y1 x2 y2 x)
        = evalJ2 (zeroRateExpr (-1 / (x1 - x0)) (-1 / (x2 - x0))
            ((x - x0 - (x1 - x0)) / (x2 - x0 - (x1 - x0))) (-(x - x0)))
            (fun i => if i = 0 then dirJet α β v w y1 else dirJet α β v w y2)) ∧
    (x1 - x0 = 0 →
      dirJet α β v w (linearZeroInterp (α := ℝ) x0 x1 y1 x2 y2 x)
        = evalJ2 (zeroRateExpr0 (-1 / (x2 - x0)) (-(x - x0)))
            (fun i => if i = 0 then dirJet α β v w y1 else dirJet α β v w y2)) := by
  rw [((dirJet_hom α β v w).zeroRate x0 x1 x2 x ⟨h1, rfl⟩ ⟨h2, rfl⟩).2, linearZeroInterp_eq, eqb_real]
  simp only [zeroRateExpr, zeroRateExpr0, evalJ2]
  exact ⟨fun h => by rw [decide_eq_false h]; rfl, fun h => by rw [decide_eq_true h]; rfl⟩

end Jets

section Routes
variable {α : Type} [Add α] [Sub α] [Mul α] [Div α] [Neg α] [OfNat α 0] [OfNat α 1] [OfNat α 2] [Transc α]

/-- a float-noded curve built directly at order `k` is the curve built at order 0 and then switched to `k`
(the two construction routes of the library: the Python-facing constructor, and `CurveDF::try_new` followed by
`set_ad_order`) -/
theorem C12_construction_routes_agree (nodes : List (Int × Number α)) (interp : Interp) (ad : ADOrder) (id : String)
    (base : Option α) (hf : ∀ p ∈ nodes, ∃ x, p.2 = Number.f64 x) :
    Curve.new nodes interp ad id base = (Curve.new nodes interp .zero id base).setAdOrder ad := by
  -- the sorted values are floats
  obtain ⟨xs, hxs⟩ : ∃ xs : List α, (sortByKey nodes).map Prod.snd = xs.map Number.f64 := by
    refine ⟨(sortByKey nodes).map (·.2.toF64), ?_⟩
    rw [List.map_map]
    refine List.map_congr_left fun p hp => ?_
    obtain ⟨x, hx⟩ := hf p ((perm_sortByKey nodes).subset hp)
    simp [hx, Number.toF64]
  have hlen : (sortByKey nodes).length = xs.length := by simpa using congrArg List.length hxs
  have h0 : ((List.range xs.length).zip (xs.map Number.f64)).map (fun p => p.2.toF64) = xs :=
    (zip_range_map_f64 xs _ (·.2) fun _ _ => rfl).trans (List.map_snd_zip (by simp))
  unfold Curve.new Curve.setAdOrder
  cases ad with
  | zero => simp only [hxs, hlen, h0]
  | one =>
    simp only [hxs, hlen, h0, List.length_map]
    congr 2
    exact zip_range_map_f64 xs _ (fun p => Dual.new p.2 [(getVariableTags id xs.length).getD p.1 ""])
      fun _ _ => rfl
  | two =>
    simp only [hxs, hlen, h0, List.length_map]
    congr 2
    exact zip_range_map_f64 xs _ (fun p => Dual2.new p.2 [(getVariableTags id xs.length).getD p.1 ""])
      fun _ _ => rfl

end Routes

end Rateslib

