/-
C14  B-spline basis: non-negative local partition of unity, correct derivatives.

Over ℝ, for ANY order `K ≥ 1` and ANY non-decreasing knot list with `K`-fold end knots (every interior
multiplicity), with `n = len − K` basis functions and domain `[t₀, t_last]`.

VALUES: support, non-negativity, Cox–de Boor values before the last knot, the right-end-point rule, partition
of unity on the whole domain.
DERIVATIVES (`Proofs/BSplineDeriv.lean`): order 0 of `bspldnev` is the value (`C14_deriv_zero`); at every point
strictly before the last knot — interior knots of any multiplicity and the left end point included — the
order-`(m+1)` output, as a function of the abscissa, is the RIGHT derivative of the order-`m` output
(`C14_right_derivative`), and it is given by the derivative recursion over the half-open Cox–de Boor
functions (`C14_derivative_recursion`); exactly at the last knot it is the LEFT derivative
(`C14_left_derivative_at_right_end`) — here the right-end-point rule, evaluated with the ORIGINAL order that the
derivative recursion carries along, is what makes the values those of the left-continuous representative of
the same piecewise polynomial (`C14_right_end_derivatives`, `C14_one_piecewise_polynomial`); orders `m ≥ k`
vanish (`C14_deriv_high`).  By induction on `m` these say: the `m`-th output is the `m`-th one-sided
derivative of the Cox–de Boor piecewise polynomial, from the right everywhere and from the left at the right
end point.
-/
import RateslibModel.Proofs.BSplinePoU
import RateslibModel.Proofs.BSplineDeriv
import RateslibModel.Proofs.DualOps
import RateslibModel.Analysis.Refine2
namespace Rateslib
open Finset

/-- Local support: a basis function vanishes outside its `k` knot spans (by the very first test of the
implementation) — every scalar type with a lawful `<`; stated over ℝ. -/
theorem C14_support (t : List ℝ) (x : ℝ) (k i org : Nat) (hk : 1 ≤ k)
    (h : x < knot t i ∨ knot t (i + k) < x) : bsplev t x k i org = 0 := by
  obtain ⟨k', rfl⟩ : ∃ k', k = k' + 1 := ⟨k - 1, by omega⟩
  unfold bsplev
  rw [if_pos]
  simp only [Bool.or_eq_true, ltb_iff]
  exact h

/-- Derivatives of order `m ≥ k` vanish identically; order 0 is the value. -/
theorem C14_deriv_high (t : List ℝ) (x : ℝ) (i k m : Nat) (org : Option Nat) (hm : k ≤ m) (hm0 : 0 < m) :
    bspldnev t x m i k org = 0 := by
  obtain ⟨m', rfl⟩ : ∃ m', m = m' + 1 := ⟨m - 1, by omega⟩
  unfold bspldnev
  rw [if_pos]
  simp only [Bool.or_eq_true, decide_eq_true_eq]
  right; omega

theorem C14_deriv_zero (t : List ℝ) (x : ℝ) (i k : Nat) (org : Option Nat) :
    bspldnev t x 0 i k org = bsplev t x k i k := rfl

/-- Strictly inside the domain (and at the left end point and at every interior knot) the values
are those of the Cox–de Boor recursion. -/
theorem C14_is_cox_de_boor (t : List ℝ) (hs : SortedKnots t) (x : ℝ) (hx : x < knot t (t.length - 1))
    (k i org : Nat) (hik : i + k < t.length) : bsplev t x k i org = pureB t x k i :=
  bsplev_eq_pure t hs x hx k i org hik

/-- At the right end point the last basis function is 1 and all others are 0. -/
theorem C14_right_end (t : List ℝ) (hs : SortedKnots t) (K : Nat) (hK : 1 ≤ K) (hlen : K + 1 ≤ t.length)
    (i : Nat) (hi : i + K < t.length) :
    bsplev t (knot t (t.length - 1)) K i K = if i + K + 1 = t.length then 1 else 0 := by
  by_cases hlast : i + K + 1 = t.length
  · rw [if_pos hlast]
    exact bsplev_last_one t hs K i K hK hi (by rw [show i + K = t.length - 1 by omega]) (by omega)
  · rw [if_neg hlast]
    exact bsplev_last_zero t hs K i K hi (by omega)

/-- Non-negativity everywhere in the domain, right end point included. -/
theorem C14_nonneg (t : List ℝ) (hs : SortedKnots t) (K : Nat) (hK : 1 ≤ K) (hlen : K + 1 ≤ t.length)
    (x : ℝ) (hx : x ≤ knot t (t.length - 1)) (i : Nat) (hi : i + K < t.length) :
    0 ≤ bsplev t x K i K := by
  rcases lt_or_eq_of_le hx with h | h
  · rw [bsplev_eq_genB t hs x h K i K hi]; exact genB_bR_nonneg t hs x K i hi
  · rw [h, C14_right_end t hs K hK hlen i hi]; split <;> norm_num

/-- Partition of unity: anywhere in the spline's domain — exactly at interior knots and at the right
end point included — the `n` basis functions sum to one. -/
theorem C14_partition_of_unity (t : List ℝ) (hs : SortedKnots t) (K : Nat) (hK : 1 ≤ K)
    (he : EndKnots t K) (x : ℝ) (hx0 : knot t 0 ≤ x) (hx1 : x ≤ knot t (t.length - 1)) :
    ∑ i ∈ range (t.length - K), bsplev t x K i K = 1 := by
  obtain ⟨n, rfl⟩ : ∃ n, K = n + 1 := ⟨K - 1, by omega⟩
  rcases lt_or_eq_of_le hx1 with hlt | rfl
  · -- constant coefficients 1 lose the factor 1 per order
    simpa using bsplev_sum_domain t hs n he x hx0 hlt 1 _ (reduces_one t x)
  · simpa using bsplev_sum_right_end t hs (n + 1) hK he.1 fun _ => 1

/-- RIGHT DERIVATIVES: at every point strictly before the last knot — interior knots of any multiplicity
and the left end point included — the order-`(m+1)` output of `bspldnev`, as a function of the abscissa,
is the right derivative of its order-`m` output (any order `k`, any index, any carried original order). -/
theorem C14_right_derivative (t : List ℝ) (hs : SortedKnots t) (x : ℝ) (hx : x < knot t (t.length - 1))
    (m k i : Nat) (org : Option Nat) (hik : i + k < t.length) :
    HasDerivWithinAt (fun y => bspldnev t y m i k org) (bspldnev t x (m + 1) i k org) (Set.Ici x) x :=
  bspldnev_right_deriv t hs x hx m k i org hik

/-- …and every order is given by the derivative recursion
`B^(m+1)_{i,k} = (k−1)·(B^(m)_{i,k−1}/(t_{i+k−1}−t_i) − B^(m)_{i+1,k−1}/(t_{i+k}−t_{i+1}))` over the half-open
Cox–de Boor functions (`genD (bR t)`; zero-width terms are zero): the zero-denominator guards of the code
only skip terms that are zero. -/
theorem C14_derivative_recursion (t : List ℝ) (hs : SortedKnots t) (x : ℝ) (hx : x < knot t (t.length - 1))
    (m k i : Nat) (org : Option Nat) (hik : i + k < t.length) :
    bspldnev t x m i k org = genD (bR t) t x m k i ∧
    genD (bR t) t x 0 k i = pureB t x k i :=
  ⟨bspldnev_eq_genD t hs x hx m k i org hik, (genD_zero _ t x k i).trans (pureB_eq_genB t x k i).symm⟩

/-- the hypotheses at the right end point: order-`K` spline whose last knot has multiplicity exactly `K` -/
theorem C14_rightEnd_of_endKnots (t : List ℝ) (hs : SortedKnots t) (K : Nat) (hK : 1 ≤ K) (he : EndKnots t K)
    (hint : knot t (t.length - K - 1) < knot t (t.length - 1)) : RightEnd t K :=
  ⟨hs, hK, by have := he.1; omega, he.2.2, hint⟩

/-- LEFT DERIVATIVES AT THE RIGHT END POINT: the order-`(m+1)` output of `bspldnev` at the last knot is the
LEFT derivative there of its order-`m` output. -/
theorem C14_left_derivative_at_right_end (t : List ℝ) (hs : SortedKnots t) (K : Nat) (hK : 1 ≤ K)
    (he : EndKnots t K) (hint : knot t (t.length - K - 1) < knot t (t.length - 1))
    (m i : Nat) (hi : i + K < t.length) :
    HasDerivWithinAt (fun y => bspldnev t y m i K none)
      (bspldnev t (knot t (t.length - 1)) (m + 1) i K none) (Set.Iic (knot t (t.length - 1)))
      (knot t (t.length - 1)) :=
  bspldnev_left_deriv_end t K (C14_rightEnd_of_endKnots t hs K hK he hint) m i hi

/-- At the last knot the outputs are the derivative recursion over the LEFT-continuous indicators
`(t_i, t_{i+1}]` — what the right-end-point rule with the carried original order computes. -/
theorem C14_right_end_derivatives (t : List ℝ) (hs : SortedKnots t) (K : Nat) (hK : 1 ≤ K)
    (he : EndKnots t K) (hint : knot t (t.length - K - 1) < knot t (t.length - 1))
    (m i : Nat) (hi : i + K < t.length) :
    bspldnev t (knot t (t.length - 1)) m i K none = genD (bL t) t (knot t (t.length - 1)) m K i :=
  (C14_rightEnd_of_endKnots t hs K hK he hint).bspldnev_end m i hi

/-- The left- and the right-continuous recursion define the same piecewise polynomial: they agree, with all
derivative recursions, wherever `x` is not a knot. -/
theorem C14_one_piecewise_polynomial (t : List ℝ) (x : ℝ) (hx : ∀ j, j < t.length → knot t j ≠ x)
    (m k i : Nat) (hik : i + k < t.length) : genD (bL t) t x m k i = genD (bR t) t x m k i :=
  genD_bL_eq_bR t x hx m k i hik

/-- A DUAL ABSCISSA on a single basis function (`bsplev_single_dual` is `m = 0`, `bspldnev_single_dual` any `m`):
the value is the order-`m` output at the abscissa's value, the variables are the abscissa's, and the sensitivity
to every name is the RIGHT derivative of the order-`m` output there times the abscissa's own sensitivity to that
name — the chain rule, name by name, at every point strictly before the last knot. -/
theorem C14_dual_abscissa_single (t : List ℝ) (hs : SortedKnots t) (x : Dual ℝ) (hw : x.WF)
    (hx : x.real < knot t (t.length - 1)) (m k i : Nat) (hik : i + k < t.length) :
    (bspldnevDual t x i k m).real = bspldnev t x.real m i k none ∧
    (bspldnevDual t x i k m).WF ∧ (bspldnevDual t x i k m).vars = x.vars ∧
    ∃ d, HasDerivWithinAt (fun y => bspldnev t y m i k none) d (Set.Ici x.real) x.real ∧
      ∀ v, Dual.den (bspldnevDual t x i k m) v = d * Dual.den x v :=
  ⟨rfl, Dual.wf_scaleL x _ _ hw, rfl, _, C14_right_derivative t hs x.real hx m k i none hik,
    fun v => Dual.den_scaleL x _ _ v⟩

/-- …and a SECOND-ORDER dual abscissa (`bsplev_single_dual2`, `bspldnev_single_dual2`): with `d₁`, `d₂` the right
derivatives of the order-`m` and order-`(m+1)` outputs, the first-order sensitivities are `d₁·∂x` and the stored
(half) second-order ones `d₁·½∂²x + ½d₂·∂x∂x`, by pair of names. -/
theorem C14_dual2_abscissa_single (t : List ℝ) (hs : SortedKnots t) (x : Dual2 ℝ) (hw : x.WF)
    (hx : x.real < knot t (t.length - 1)) (m k i : Nat) (hik : i + k < t.length) :
    ∃ d1 d2, HasDerivWithinAt (fun y => bspldnev t y m i k none) d1 (Set.Ici x.real) x.real ∧
      HasDerivWithinAt (fun y => bspldnev t y (m + 1) i k none) d2 (Set.Ici x.real) x.real ∧
      ChainSpec x (bspldnevDual2 t x i k m) (bspldnev t x.real m i k none) d1 (half * d2) :=
  ⟨_, _, C14_right_derivative t hs x.real hx m k i none hik,
    C14_right_derivative t hs x.real hx (m + 1) k i none hik, Dual2.chain_shape_spec x hw _ _ _⟩

/-! Non-vacuity: cubic splines on knots (0,0,0,0,1,3,3,3,3): sorted, 4-fold ends. -/
def exKnots : List ℝ := [0, 0, 0, 0, 1, 3, 3, 3, 3]
example : SortedKnots exKnots ∧ EndKnots exKnots 4 := by
  refine ⟨sortedKnots_of_pairwise (by norm_num [exKnots]), by simp [exKnots], ?_, ?_⟩ <;> simp [knot, exKnots]

example : knot exKnots (exKnots.length - 4 - 1) < knot exKnots (exKnots.length - 1) := by
  simp [knot, exKnots]

end Rateslib
