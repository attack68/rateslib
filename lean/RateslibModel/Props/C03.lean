/-
C03  Derivatives are tracked by variable name, whatever the internal layout.

`den d n` is the derivative of `d` with respect to the variable NAMED `n` (0 if `d` does not carry
`n`).  `WF` is the shape invariant (duplicate-free names, gradient of matching length).  `p` is the
pointer-equality flag of the two operands' variable lists; the reachable-state invariant is
`p = true → a.vars = b.vars`.  All statements hold over every commutative ring `α` (so over ℝ, and
over the jets used for C01/C02); f64 rounding is modelled, not verified.

Second-order numbers (`C03_*_dual2`): the same statements with, in addition, the stored (half) second
derivative `den2 d n w` per PAIR of names; `×` is the product rule with the symmetrised cross term.
`C03_eq_dual2`: `==` on second-order numbers = agreement of value, of every first derivative by name and of
every (half) second derivative by pair of names.
-/
import RateslibModel.Proofs.Dual2Layout
import RateslibModel.Proofs.NewFrom
namespace Rateslib
open Dual

variable {α : Type} [CommRing α]

/-- The result carries exactly the union of the operands' variable names, each once, with a
derivative array of matching shape (for +, −, ×). -/
theorem C03_wf (p : Bool) (a b : Dual α) (ha : a.WF) (hb : b.WF) (hp : p = true → a.vars = b.vars) :
    ((add p a b).WF ∧ ∀ n, n ∈ (add p a b).vars ↔ n ∈ a.vars ∨ n ∈ b.vars) ∧
    ((sub p a b).WF ∧ ∀ n, n ∈ (sub p a b).vars ↔ n ∈ a.vars ∨ n ∈ b.vars) ∧
    ((mul p a b).WF ∧ ∀ n, n ∈ (mul p a b).vars ↔ n ∈ a.vars ∨ n ∈ b.vars) :=
  ⟨⟨(add_spec p a b ha hb hp).wf, (add_spec p a b ha hb hp).mem⟩,
   ⟨(sub_spec p a b ha hb hp).wf, (sub_spec p a b ha hb hp).mem⟩,
   ⟨(mul_spec p a b ha hb hp).wf, (mul_spec p a b ha hb hp).mem⟩⟩

/-- The result depends only on each operand's value and its derivative per variable name:
`+`, `−`, `×` act name by name (sum, difference, product rule). -/
theorem C03_hom (p : Bool) (a b : Dual α) (ha : a.WF) (hb : b.WF) (hp : p = true → a.vars = b.vars)
    (n : String) :
    ((add p a b).real = a.real + b.real ∧ den (add p a b) n = den a n + den b n) ∧
    ((sub p a b).real = a.real - b.real ∧ den (sub p a b) n = den a n - den b n) ∧
    ((mul p a b).real = a.real * b.real ∧
      den (mul p a b) n = den a n * b.real + den b n * a.real) :=
  ⟨⟨(add_spec p a b ha hb hp).real, (add_spec p a b ha hb hp).den n⟩,
   ⟨(sub_spec p a b ha hb hp).real, (sub_spec p a b ha hb hp).den n⟩,
   ⟨(mul_spec p a b ha hb hp).real, (mul_spec p a b ha hb hp).den n⟩⟩

/-- Layout is irrelevant: replacing an operand by any other representation of the same number
(different order, extra zero-derivative variables, shared or unshared storage) cannot change the
result, name by name. -/
theorem C03_layout_irrelevant (p p' : Bool) (a a' b b' : Dual α)
    (ha : a.WF) (ha' : a'.WF) (hb : b.WF) (hb' : b'.WF)
    (hp : p = true → a.vars = b.vars) (hp' : p' = true → a'.vars = b'.vars)
    (hra : a.real = a'.real) (hda : ∀ n, den a n = den a' n)
    (hrb : b.real = b'.real) (hdb : ∀ n, den b n = den b' n) (n : String) :
    (den (add p a b) n = den (add p' a' b') n ∧ (add p a b).real = (add p' a' b').real) ∧
    (den (sub p a b) n = den (sub p' a' b') n ∧ (sub p a b).real = (sub p' a' b').real) ∧
    (den (mul p a b) n = den (mul p' a' b') n ∧ (mul p a b).real = (mul p' a' b').real) := by
  have h := C03_hom p a b ha hb hp n
  have h' := C03_hom p' a' b' ha' hb' hp' n
  refine ⟨⟨?_, ?_⟩, ⟨?_, ?_⟩, ⟨?_, ?_⟩⟩
  · rw [h.1.2, h'.1.2, hda, hdb]
  · rw [h.1.1, h'.1.1, hra, hrb]
  · rw [h.2.1.2, h'.2.1.2, hda, hdb]
  · rw [h.2.1.1, h'.2.1.1, hra, hrb]
  · rw [h.2.2.2, h'.2.2.2, hda, hdb, hra, hrb]
  · rw [h.2.2.1, h'.2.2.1, hra, hrb]

/-- Equality treats a missing variable and a zero derivative as the same thing: two numbers are
equal exactly when their values agree and their derivatives agree for every name. -/
theorem C03_eq [Transc α] [LawfulEqb α] (p : Bool) (a b : Dual α) (ha : a.WF) (hb : b.WF)
    (hp : p = true → a.vars = b.vars) :
    Dual.eq p a b = true ↔ (a.real = b.real ∧ ∀ n, den a n = den b n) :=
  eq_spec p a b ha hb hp

/-- The pointer-equality flag itself is irrelevant under the invariant. -/
theorem C03_ptr_irrelevant (a b : Dual α) (h : a.vars = b.vars) :
    add true a b = add false a b ∧ sub true a b = sub false a b ∧ mul true a b = mul false a b := by
  simp only [add, sub, mul, aligned_ptr_irrelevant a b h, and_self]

section Second
variable [Div α]

/-- Shape and names of `+`, `−`, `×` on second-order numbers: well-formed (square Hessian of matching
size), exactly the union of the operands' names. -/
theorem C03_wf_dual2 (p : Bool) (a b : Dual2 α) (ha : a.WF) (hb : b.WF) (hp : p = true → a.vars = b.vars) :
    ((Dual2.add p a b).WF ∧ ∀ n, n ∈ (Dual2.add p a b).vars ↔ n ∈ a.vars ∨ n ∈ b.vars) ∧
    ((Dual2.sub p a b).WF ∧ ∀ n, n ∈ (Dual2.sub p a b).vars ↔ n ∈ a.vars ∨ n ∈ b.vars) ∧
    ((Dual2.mul p a b).WF ∧ ∀ n, n ∈ (Dual2.mul p a b).vars ↔ n ∈ a.vars ∨ n ∈ b.vars) :=
  ⟨⟨(Dual2.add_spec p a b ha hb hp).wf, (Dual2.add_spec p a b ha hb hp).mem⟩,
   ⟨(Dual2.sub_spec p a b ha hb hp).wf, (Dual2.sub_spec p a b ha hb hp).mem⟩,
   ⟨(Dual2.mul_spec p a b ha hb hp).wf, (Dual2.mul_spec p a b ha hb hp).mem⟩⟩

/-- `+`, `−`, `×` on second-order numbers act name by name and name-pair by name-pair, whatever the
stored layout: value, gradient and (half) Hessian of the result are the sum, difference and
second-order product rule of the operands' — the cross term is `½ (aₙ b_w + a_w bₙ)`. -/
theorem C03_hom_dual2 (p : Bool) (a b : Dual2 α) (ha : a.WF) (hb : b.WF)
    (hp : p = true → a.vars = b.vars) (n w : String) :
    ((Dual2.add p a b).real = a.real + b.real ∧
      Dual2.den (Dual2.add p a b) n = Dual2.den a n + Dual2.den b n ∧
      Dual2.den2 (Dual2.add p a b) n w = Dual2.den2 a n w + Dual2.den2 b n w) ∧
    ((Dual2.sub p a b).real = a.real - b.real ∧
      Dual2.den (Dual2.sub p a b) n = Dual2.den a n - Dual2.den b n ∧
      Dual2.den2 (Dual2.sub p a b) n w = Dual2.den2 a n w - Dual2.den2 b n w) ∧
    ((Dual2.mul p a b).real = a.real * b.real ∧
      Dual2.den (Dual2.mul p a b) n = Dual2.den a n * b.real + Dual2.den b n * a.real ∧
      Dual2.den2 (Dual2.mul p a b) n w = Dual2.den2 a n w * b.real + Dual2.den2 b n w * a.real
        + half * (Dual2.den a n * Dual2.den b w + Dual2.den a w * Dual2.den b n)) :=
  ⟨⟨(Dual2.add_spec p a b ha hb hp).real, (Dual2.add_spec p a b ha hb hp).den n,
    (Dual2.add_spec p a b ha hb hp).den2 n w⟩,
   ⟨(Dual2.sub_spec p a b ha hb hp).real, (Dual2.sub_spec p a b ha hb hp).den n,
    (Dual2.sub_spec p a b ha hb hp).den2 n w⟩,
   ⟨(Dual2.mul_spec p a b ha hb hp).real, (Dual2.mul_spec p a b ha hb hp).den n,
    (Dual2.mul_spec p a b ha hb hp).den2 n w⟩⟩

/-- Layout is irrelevant at second order too: any other representation of the same two numbers (other
order, zero-padded variables, shared or unshared storage) gives the same result, name by name and
name-pair by name-pair. -/
theorem C03_layout_irrelevant_dual2 (p p' : Bool) (a a' b b' : Dual2 α)
    (ha : a.WF) (ha' : a'.WF) (hb : b.WF) (hb' : b'.WF)
    (hp : p = true → a.vars = b.vars) (hp' : p' = true → a'.vars = b'.vars)
    (hra : a.real = a'.real) (hda : ∀ n, Dual2.den a n = Dual2.den a' n)
    (hha : ∀ n w, Dual2.den2 a n w = Dual2.den2 a' n w)
    (hrb : b.real = b'.real) (hdb : ∀ n, Dual2.den b n = Dual2.den b' n)
    (hhb : ∀ n w, Dual2.den2 b n w = Dual2.den2 b' n w) (n w : String) :
    Dual2.den2 (Dual2.add p a b) n w = Dual2.den2 (Dual2.add p' a' b') n w ∧
    Dual2.den2 (Dual2.sub p a b) n w = Dual2.den2 (Dual2.sub p' a' b') n w ∧
    Dual2.den2 (Dual2.mul p a b) n w = Dual2.den2 (Dual2.mul p' a' b') n w ∧
    Dual2.den (Dual2.mul p a b) n = Dual2.den (Dual2.mul p' a' b') n := by
  have h := C03_hom_dual2 p a b ha hb hp n w
  have h' := C03_hom_dual2 p' a' b' ha' hb' hp' n w
  refine ⟨?_, ?_, ?_, ?_⟩
  · rw [h.1.2.2, h'.1.2.2, hha, hhb]
  · rw [h.2.1.2.2, h'.2.1.2.2, hha, hhb]
  · rw [h.2.2.2.2, h'.2.2.2.2, hha, hhb, hra, hrb, hda n, hda w, hdb n, hdb w]
  · rw [h.2.2.2.1, h'.2.2.2.1, hda, hdb, hra, hrb]

/-- …and the pointer-equality flag is irrelevant under the invariant. -/
theorem C03_ptr_irrelevant_dual2 (a b : Dual2 α) (h : a.vars = b.vars) :
    Dual2.add true a b = Dual2.add false a b ∧ Dual2.sub true a b = Dual2.sub false a b ∧
    Dual2.mul true a b = Dual2.mul false a b := by
  simp only [Dual2.add, Dual2.sub, Dual2.mul, Dual2.aligned_ptr_irrelevant a b h, and_self]

/-- Equality at second order treats a missing variable and zero derivatives as the same thing: two
second-order numbers are equal exactly when their values, their first derivatives for every name and
their (half) second derivatives for every pair of names agree — whatever the layouts. -/
theorem C03_eq_dual2 [Transc α] [LawfulEqb α] (p : Bool) (a b : Dual2 α) (ha : a.WF) (hb : b.WF)
    (hp : p = true → a.vars = b.vars) :
    Dual2.eq p a b = true ↔
      (a.real = b.real ∧ (∀ n, Dual2.den a n = Dual2.den b n) ∧
        ∀ n w, Dual2.den2 a n w = Dual2.den2 b n w) :=
  Dual2.eq_spec p a b ha hb hp

end Second

/-! `new_from` / `try_new_from`: a number constructed on ANOTHER number's variable list is the freshly
constructed number projected BY NAME onto that list — exactly the other's list, each derivative kept for a
name the list has and dropped for one it has not, whatever the two orders. -/
section NewFrom
variable [Div α]

theorem C03_new_from (ov : List String) (hov : ov.Nodup) (real : α) (vars : List String) :
    (Dual.newFrom ov real vars).WF ∧ (Dual.newFrom ov real vars).vars = ov ∧
    (Dual.newFrom ov real vars).real = real ∧
    ∀ n, den (Dual.newFrom ov real vars) n = if n ∈ ov then den (Dual.new real vars) n else 0 :=
  Dual.toNewVars_cmp (Dual.new real vars) ov (Dual.new_wf real vars) hov

/-- the fallible form: an error exactly when `try_new` gives one, otherwise the projection by name -/
theorem C03_try_new_from (ov : List String) (hov : ov.Nodup) (real : α) (vars : List String) (dual : List α) :
    (Dual.tryNew real vars dual = none → Dual.tryNewFrom ov real vars dual = none) ∧
    ∀ d, Dual.tryNew real vars dual = some d →
      ∃ r, Dual.tryNewFrom ov real vars dual = some r ∧ r.WF ∧ r.vars = ov ∧ r.real = real ∧
        ∀ n, den r n = if n ∈ ov then den d n else 0 := by
  constructor
  · intro h; simp only [Dual.tryNewFrom, h]
  · intro d h
    obtain ⟨hw, hr, _⟩ := Dual.tryNew_wf real vars dual d h
    obtain ⟨h1, h2, h3, h4⟩ := Dual.toNewVars_cmp d ov hw hov
    exact ⟨_, by simp only [Dual.tryNewFrom, h], h1, h2, by rw [h3, hr], h4⟩

theorem C03_new_from_dual2 (ov : List String) (hov : ov.Nodup) (real : α) (vars : List String) :
    (Dual2.newFrom ov real vars).WF ∧ (Dual2.newFrom ov real vars).vars = ov ∧
    (Dual2.newFrom ov real vars).real = real ∧
    (∀ n, Dual2.den (Dual2.newFrom ov real vars) n =
      if n ∈ ov then Dual2.den (Dual2.new real vars) n else 0) ∧
    ∀ n w, Dual2.den2 (Dual2.newFrom ov real vars) n w =
      if n ∈ ov ∧ w ∈ ov then Dual2.den2 (Dual2.new real vars) n w else 0 :=
  Dual2.toNewVars_cmp (Dual2.new real vars) ov (Dual2.new_wf real vars) hov

end NewFrom

/-! Non-vacuity: the hypotheses are met by concrete numbers with different layouts. -/
example : (⟨2, ["x", "y"], [1, 3]⟩ : Dual ℤ).WF ∧ (⟨5, ["y", "z"], [4, 7]⟩ : Dual ℤ).WF := by
  constructor <;> exact ⟨by decide, rfl⟩

example : (⟨2, ["x", "y"], [1, 3], [[1, 2], [2, 5]]⟩ : Dual2 ℚ).WF ∧
    (⟨5, ["y", "z"], [4, 7], [[0, 1], [1, 3]]⟩ : Dual2 ℚ).WF := by
  constructor <;> exact ⟨by decide, rfl, rfl, by decide⟩

end Rateslib
