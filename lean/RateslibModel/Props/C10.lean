/-
C10  FX sensitivities are exact and the market state follows its update history.

SENSITIVITIES (Proofs/FXSens.lean): the triangulation preserves every relation closed under its arithmetic
(`fill_consistentR`, Proofs/FXFill.lean); instantiated with "value `u_i/u_j`, sensitivity `value·(λ_i −
λ_j)`" this gives, for quotes given as plain numbers, `C10_sensitivity`: with `σ` the CUT of the currencies
that the quote `q0` crosses and no other quote crosses — in a tree of quotes, the two sides of the edge `q0`
— the sensitivity of EVERY cross i/j to `fx_<q0>` is `(σ i − σ j) · cross / quote`: `+cross/quote` or
`−cross/quote` when the path from i to j crosses `q0` (sign by direction of travel), `0` when it does not.
`C10_sensitivity_general` is the same for quotes that are already dual numbers (any log-derivative
potential).  SECOND ORDER (`C10_second_order_same`, `C10_second_order_cross`): the stored (half) second
derivatives are `½·cross·(s² − s)/quote²` for one quote twice and `½·cross·s0·s1/(quote0·quote1)` for two
different quotes — the matching second derivatives of `cross ∝ quote^s`.
NO HYPOTHESIS ON POTENTIALS OR CUTS (`C10_sensitivity_tree`; Proofs/TreePotential.lean, Proofs/FXTree.lean):
whenever the first-order array is returned for `n − 1` non-zero plain-number quotes over `n` currencies, the
value potential `u` and, for every quote, a 0/1 cut `σ` that it alone crosses EXIST (a tree admits every
edge assignment as a coboundary; the cut of `q0` is where a potential of "−1 on `q0`, 1 on every other
quote" takes the value it has at `a0`), so every sensitivity is `+cross/quote`, `−cross/quote` or `0`.
STATE MACHINE: naming, refused updates, rebuild after accepted updates, derivative-order switches.
-/
import RateslibModel.Proofs.FXInit
import RateslibModel.Proofs.FXSens
import RateslibModel.Proofs.FXTree
import RateslibModel.Analysis.RealInst
namespace Rateslib

section Generic
variable {α : Type} [Add α] [Sub α] [Mul α] [Div α] [Neg α] [OfNat α 0] [OfNat α 1] [OfNat α 2]
  [Transc α]

/-- A quote given as a plain number for pair xxxyyy is lifted to a dual number tagged `fx_xxxyyy` with
unit sensitivity; quotes that are already dual numbers keep their own variables. -/
theorem C10_naming (q : FXQuote α) (f : α) (d : Dual α) (e : Dual2 α) :
    fxVarName q = "fx_" ++ q.lhs ++ q.rhs ∧
    setOrder (.f64 f) .one [fxVarName q] = .dual ⟨f, [fxVarName q], [1]⟩ ∧
    setOrder (.f64 f) .two [fxVarName q] = .dual2 ⟨f, [fxVarName q], [1], [[0]]⟩ ∧
    setOrder (.dual d) .one [fxVarName q] = .dual d ∧
    setOrder (.dual2 e) .two [fxVarName q] = .dual2 e := by
  refine ⟨rfl, ?_, ?_, rfl, rfl⟩
  · simp [setOrder, Dual.new, dedup, onesV]
  · simp [setOrder, Dual2.new, dedup, onesV, zerosM, zerosV]

/-- the market state machine: an update or an order switch that is refused leaves the state as it is -/
inductive FxOp (α : Type) where
  | update (news : List (FXQuote α))
  | setOrder (k : ADOrder)

def fxApply (f : FXRates α) : FxOp α → FXRates α
  | .update news => match f.update news with | .ok f' => f' | .error _ => f
  | .setOrder k => match f.setAdOrder k with | .ok f' => f' | .error _ => f

/-- the quote list after replacing, for each new quote in turn, the stored quote of the same pair -/
def replaceQuotes (qs news : List (FXQuote α)) : List (FXQuote α) :=
  news.foldl
    (fun qs fxr =>
      let idx := ((List.range qs.length).zip qs).foldl (fun a p => if samePair fxr p.2 then p.1 else a) 0
      qs.set idx fxr)
    qs

/-- Updates naming unknown pairs are refused without changing anything… -/
theorem C10_refused_update_noop (f : FXRates α) (news : List (FXQuote α))
    (h : ∃ v ∈ news, ∀ x ∈ f.quotes, samePair x v = false) :
    f.update news = .error .unknownPair ∧ fxApply f (.update news) = f := by
  obtain ⟨v, hv, hx⟩ := h
  have : (news.all fun v => f.quotes.any fun x => samePair x v) = false := by
    rw [List.all_eq_false]
    refine ⟨v, hv, ?_⟩
    simp only [Bool.not_eq_true, List.any_eq_false]
    intro x hxm; simp [hx x hxm]
  constructor
  · simp [FXRates.update, this]
  · simp [fxApply, FXRates.update, this]

/-- …and an accepted update yields exactly the market built directly from the latest quotes with the
current first currency as base. -/
theorem C10_update_is_rebuild (f f' : FXRates α) (news : List (FXQuote α)) (h : f.update news = .ok f') :
    FXRates.tryNew (replaceQuotes f.quotes news) f.currencies.head? = .ok f' := by
  unfold FXRates.update at h
  split at h
  · cases h
  · -- `replaceQuotes` is, word for word, the fold inside `update`
    exact h

/-- Switching derivative order never changes the quote list or the currency order. -/
theorem C10_order_keeps_quotes (f f' : FXRates α) (k : ADOrder) (h : f.setAdOrder k = .ok f') :
    f'.quotes = f.quotes ∧ f'.currencies = f.currencies := by
  unfold FXRates.setAdOrder at h
  split at h
  -- nine arms: three return `f`, three project its array, three rebuild it or fail; none touches the two fields
  all_goals first
    | (cases h; exact ⟨rfl, rfl⟩)
    | (split at h
       · cases h
       · cases h; exact ⟨rfl, rfl⟩)

/-- Lowering the order projects every rate onto its value (no recomputation). -/
theorem C10_lowering_projects (f : FXRates α) (a : Nat → Nat → Dual α) (b : Nat → Nat → Dual2 α) :
    (f.arr = .dual a → f.setAdOrder .zero = .ok { f with arr := .f64 (fun i j => (a i j).real) }) ∧
    (f.arr = .dual2 b → f.setAdOrder .zero = .ok { f with arr := .f64 (fun i j => (b i j).real) }) ∧
    (f.arr = .dual2 b → f.setAdOrder .one = .ok { f with arr := .dual (fun i j => Dual.ofDual2 (b i j)) }) := by
  refine ⟨fun h => ?_, fun h => ?_, fun h => ?_⟩ <;> simp [FXRates.setAdOrder, h]

/-- Switching derivative order never changes a rate's value: the first-order matrix built from the
same quotes has, entry by entry, the zero-order matrix as its values — for EVERY scalar type with the
code's operations, hence bit for bit in f64: the value part of every dual-number operation the
triangulation uses (product, reciprocal) is the float operation on the values.  (This is true of the code
only since the repair of `f64 / Dual` recorded in known_findings.json: `a * x.pow(-1)` was 1 ulp off
`a / x` for some `x`.) -/
theorem C10_order_keeps_values (currencies : List String) (quotes : List (FXQuote α))
    (a1 : Nat → Nat → Dual α) (h1 : createFxArray currencies quotes .one = some (.dual a1)) :
    ∃ a0, createFxArray currencies quotes .zero = some (.f64 a0) ∧ ∀ i j, (a1 i j).real = a0 i j := by
  rw [createFxArray_one, Option.map_eq_some_iff] at h1
  obtain ⟨A, hf, hA⟩ := h1
  obtain rfl : A.fx = a1 := by injection hA
  have hm := fill_map (fun d : Dual α => d.real) real_fxHom currencies.length
    (fillFuel currencies.length)
    (initArr (liftQuotes Number.toDual currencies quotes .one) (Dual.new (0 : α) [])) []
  have hq : (liftQuotes Number.toDual currencies quotes .one).map (fun p => (p.1, p.2.1, p.2.2.real))
      = liftQuotes Number.toF64 currencies quotes .zero := by
    simp only [liftQuotes, List.map_map]
    refine List.map_congr_left fun q _ => ?_
    simp only [Function.comp]
    cases q.rate <;> rfl
  rw [hf, initArr_map _ real_fxHom rfl, hq] at hm
  refine ⟨(A.map fun d => d.real).fx, ?_, fun _ _ => rfl⟩
  rw [createFxArray_zero]
  exact hm ▸ rfl

end Generic

section Sensitivities
open Rateslib.Dual

/-- FIRST-ORDER SENSITIVITIES OF EVERY RATE, general form (quotes of any kind): if the lifted quotes are
described by value potentials `u` and, for the variable `v`, a log-derivative potential `lam`
(`∂_v quote = quote·(lam a − lam b)`), so is every entry of the triangulated first-order array. -/
theorem C10_sensitivity_general (currencies : List String) (quotes : List (FXQuote ℝ)) (u : Nat → ℝ)
    (hu : ∀ i, u i ≠ 0) (lam : Nat → ℝ) (v : String)
    (hq : ∀ q ∈ quotes, RateRel u lam v (pairIdx currencies q).1 (pairIdx currencies q).2
      (setOrder q.rate .one [fxVarName q]).toDual)
    (a1 : Nat → Nat → Dual ℝ) (h1 : createFxArray currencies quotes .one = some (.dual a1)) :
    ∀ i j, i < currencies.length → j < currencies.length →
      (a1 i j).WF ∧ (a1 i j).real = u i / u j ∧ den (a1 i j) v = u i / u j * (lam i - lam j) :=
  fxArray_rateRel currencies quotes u hu lam v hq a1 h1

/-- FIRST-ORDER SENSITIVITIES, quotes given as plain numbers: the sensitivity of every cross i/j to the
variable `fx_<q0>` of a quote `q0` is `(σ i − σ j) · cross / quote`, `σ` the cut that `q0` alone crosses:
`± cross/quote` on the path (sign by direction of travel), `0` off it. -/
theorem C10_sensitivity (currencies : List String) (quotes : List (FXQuote ℝ)) (u : Nat → ℝ)
    (hu : ∀ i, u i ≠ 0)
    (hval : ∀ q ∈ quotes, ∃ f, q.rate = .f64 f ∧
      f = u (pairIdx currencies q).1 / u (pairIdx currencies q).2)
    (q0 : FXQuote ℝ) (f0 : ℝ) (hf0 : q0.rate = .f64 f0)
    (hf0u : f0 = u (pairIdx currencies q0).1 / u (pairIdx currencies q0).2)
    (σ : Nat → ℝ) (h0 : σ (pairIdx currencies q0).1 - σ (pairIdx currencies q0).2 = 1)
    (hoth : ∀ q ∈ quotes, fxVarName q ≠ fxVarName q0 → σ (pairIdx currencies q).1 = σ (pairIdx currencies q).2)
    (hsame : ∀ q ∈ quotes, fxVarName q = fxVarName q0 →
      pairIdx currencies q = pairIdx currencies q0 ∧ q.rate = q0.rate)
    (a1 : Nat → Nat → Dual ℝ) (h1 : createFxArray currencies quotes .one = some (.dual a1)) :
    ∀ i j, i < currencies.length → j < currencies.length →
      (a1 i j).real = u i / u j ∧
      den (a1 i j) (fxVarName q0) = (σ i - σ j) * (a1 i j).real / f0 := by
  have hf0ne : f0 ≠ 0 := by rw [hf0u]; exact div_ne_zero (hu _) (hu _)
  have key := fxArray_rateRel currencies quotes u hu (fun i => σ i / f0) (fxVarName q0) ?_ a1 h1
  · intro i j hi hj
    obtain ⟨_, r, d⟩ := key i j hi hj
    refine ⟨r, ?_⟩
    rw [d, r]; field_simp
  · intro q hq
    obtain ⟨f, hf, hfu⟩ := hval q hq
    rw [hf]
    refine ⟨Dual.new_wf f _, hfu, ?_⟩
    show den (Dual.new f [fxVarName q]) _ = _
    rw [Dual.den_new, ← hfu]
    exact cut_logderiv currencies q q0 f f0 hf (hfu ▸ div_ne_zero (hu _) (hu _)) hf0 σ h0 (hoth q hq)
      (hsame q hq)

/-- FIRST-ORDER SENSITIVITIES ON A TREE OF PLAIN-NUMBER QUOTES, nothing assumed about potentials or cuts:
whenever the first-order array is returned for `n − 1` non-zero plain-number quotes over `n` currencies, there
are a non-vanishing `u` and, for the quote `q0`, a 0/1 cut `σ` with `σ a0 = 1`, `σ b0 = 0` such that every
cross `i/j` has value `u i / u j` and sensitivity `(σ i − σ j) · cross / quote` to `fx_<q0>` — that is
`+cross/quote`, `−cross/quote` or `0` (`C10_sensitivity_cases`). -/
theorem C10_sensitivity_tree (currencies : List String) (quotes : List (FXQuote ℝ))
    (hcount : quotes.length + 1 = currencies.length)
    (hidx : ∀ q ∈ quotes, (pairIdx currencies q).1 < currencies.length ∧
      (pairIdx currencies q).2 < currencies.length)
    (hplain : ∀ q ∈ quotes, ∃ f, q.rate = .f64 f ∧ f ≠ 0)
    (q0 : FXQuote ℝ) (hq0 : q0 ∈ quotes) (f0 : ℝ) (hf0 : q0.rate = .f64 f0)
    (hsame : ∀ q ∈ quotes, fxVarName q = fxVarName q0 →
      pairIdx currencies q = pairIdx currencies q0 ∧ q.rate = q0.rate)
    (a1 : Nat → Nat → Dual ℝ) (h1 : createFxArray currencies quotes .one = some (.dual a1)) :
    ∃ (u σ : Nat → ℝ), (∀ i, u i ≠ 0) ∧ (∀ i, i < currencies.length → σ i = 0 ∨ σ i = 1) ∧
      σ (pairIdx currencies q0).1 = 1 ∧ σ (pairIdx currencies q0).2 = 0 ∧
      ∀ i j, i < currencies.length → j < currencies.length →
        (a1 i j).real = u i / u j ∧
        den (a1 i j) (fxVarName q0) = (σ i - σ j) * (a1 i j).real / f0 := by
  have hconn := connectedE_of_create currencies quotes .one _ h1
  obtain ⟨u, hu, hval⟩ := potential_of_connected currencies quotes hcount hidx hplain hconn
  obtain ⟨σ, hσ01, hσa, hσb, hσo⟩ := cut_of_quote currencies quotes hcount hidx hconn q0 hq0
  exact ⟨u, σ, hu, hσ01, hσa, hσb, C10_sensitivity currencies quotes u hu hval q0 f0 hf0
    (eq_of_plain hf0 (hval q0 hq0)) σ (by rw [hσa, hσb]; ring) hσo hsame a1 h1⟩

/-- the three cases of `C10_sensitivity` for a 0/1 cut, spelled out -/
theorem C10_sensitivity_cases (cross f0 si sj : ℝ) (hi : si = 0 ∨ si = 1) (hj : sj = 0 ∨ sj = 1) :
    (si - sj) * cross / f0 = cross / f0 ∨ (si - sj) * cross / f0 = -(cross / f0) ∨
    (si - sj) * cross / f0 = 0 := by
  rcases hi with rfl | rfl <;> rcases hj with rfl | rfl
  · right; right; simp
  · right; left; ring
  · left; ring
  · right; right; simp

/-- SECOND ORDER, one quote twice: `½ · cross · (s² − s) / quote²` (stored half second derivative). -/
theorem C10_second_order_same (currencies : List String) (quotes : List (FXQuote ℝ)) (u : Nat → ℝ)
    (hu : ∀ i, u i ≠ 0)
    (hval : ∀ q ∈ quotes, ∃ f, q.rate = .f64 f ∧
      f = u (pairIdx currencies q).1 / u (pairIdx currencies q).2)
    (q0 : FXQuote ℝ) (f0 : ℝ) (hf0 : q0.rate = .f64 f0)
    (hf0u : f0 = u (pairIdx currencies q0).1 / u (pairIdx currencies q0).2)
    (σ : Nat → ℝ) (h0 : σ (pairIdx currencies q0).1 - σ (pairIdx currencies q0).2 = 1)
    (hoth : ∀ q ∈ quotes, fxVarName q ≠ fxVarName q0 → σ (pairIdx currencies q).1 = σ (pairIdx currencies q).2)
    (hsame : ∀ q ∈ quotes, fxVarName q = fxVarName q0 →
      pairIdx currencies q = pairIdx currencies q0 ∧ q.rate = q0.rate)
    (a2 : Nat → Nat → Dual2 ℝ) (h2 : createFxArray currencies quotes .two = some (.dual2 a2)) :
    ∀ i j, i < currencies.length → j < currencies.length →
      Dual2.den2 (a2 i j) (fxVarName q0) (fxVarName q0)
        = 1 / 2 * (a2 i j).real * ((σ i - σ j) ^ 2 - (σ i - σ j)) / f0 ^ 2 := by
  have hf0ne : f0 ≠ 0 := by rw [hf0u]; exact div_ne_zero (hu _) (hu _)
  -- first log-derivative potential `σ / f0` (as at first order), second one `-σ / f0²`
  have key := fxArray_rateRel2 currencies quotes u hu (fun i => σ i / f0) (fun i => σ i / f0)
    (fun i => -(σ i / f0 ^ 2)) (fxVarName q0) (fxVarName q0) ?_ a2 h2
  · intro i j hi hj
    obtain ⟨_, r, _, _, d⟩ := key i j hi hj
    rw [d, r]; field_simp; ring
  · intro q hq
    obtain ⟨f, hf, hfu⟩ := hval q hq
    have hd := cut_logderiv currencies q q0 f f0 hf (hfu ▸ div_ne_zero (hu _) (hu _)) hf0 σ h0
      (hoth q hq) (hsame q hq)
    refine plain_rateRel2 currencies u _ _ _ _ _ q f hf hfu hd hd ?_
    by_cases hn : fxVarName q = fxVarName q0
    · rw [(hsame q hq hn).1,
        show σ (pairIdx currencies q0).1 = σ (pairIdx currencies q0).2 + 1 by linarith]
      field_simp
      ring
    · simp only [hoth q hq hn]; ring

/-- SECOND ORDER, two different quotes: `½ · cross · s0 · s1 / (quote0 · quote1)`. -/
theorem C10_second_order_cross (currencies : List String) (quotes : List (FXQuote ℝ)) (u : Nat → ℝ)
    (hu : ∀ i, u i ≠ 0)
    (hval : ∀ q ∈ quotes, ∃ f, q.rate = .f64 f ∧
      f = u (pairIdx currencies q).1 / u (pairIdx currencies q).2)
    (q0 q1 : FXQuote ℝ) (f0 f1 : ℝ) (hf0 : q0.rate = .f64 f0) (hf1 : q1.rate = .f64 f1)
    (hf0u : f0 = u (pairIdx currencies q0).1 / u (pairIdx currencies q0).2)
    (hf1u : f1 = u (pairIdx currencies q1).1 / u (pairIdx currencies q1).2)
    (hne : fxVarName q0 ≠ fxVarName q1)
    (σ0 σ1 : Nat → ℝ)
    (h0 : σ0 (pairIdx currencies q0).1 - σ0 (pairIdx currencies q0).2 = 1)
    (h1 : σ1 (pairIdx currencies q1).1 - σ1 (pairIdx currencies q1).2 = 1)
    (hoth0 : ∀ q ∈ quotes, fxVarName q ≠ fxVarName q0 → σ0 (pairIdx currencies q).1 = σ0 (pairIdx currencies q).2)
    (hoth1 : ∀ q ∈ quotes, fxVarName q ≠ fxVarName q1 → σ1 (pairIdx currencies q).1 = σ1 (pairIdx currencies q).2)
    (hsame0 : ∀ q ∈ quotes, fxVarName q = fxVarName q0 →
      pairIdx currencies q = pairIdx currencies q0 ∧ q.rate = q0.rate)
    (hsame1 : ∀ q ∈ quotes, fxVarName q = fxVarName q1 →
      pairIdx currencies q = pairIdx currencies q1 ∧ q.rate = q1.rate)
    (a2 : Nat → Nat → Dual2 ℝ) (h2 : createFxArray currencies quotes .two = some (.dual2 a2)) :
    ∀ i j, i < currencies.length → j < currencies.length →
      Dual2.den2 (a2 i j) (fxVarName q0) (fxVarName q1)
        = 1 / 2 * (a2 i j).real * ((σ0 i - σ0 j) * (σ1 i - σ1 j)) / (f0 * f1) := by
  have hf0ne : f0 ≠ 0 := by rw [hf0u]; exact div_ne_zero (hu _) (hu _)
  have hf1ne : f1 ≠ 0 := by rw [hf1u]; exact div_ne_zero (hu _) (hu _)
  have key := fxArray_rateRel2 currencies quotes u hu (fun i => σ0 i / f0) (fun i => σ1 i / f1)
    (fun _ => 0) (fxVarName q0) (fxVarName q1) ?_ a2 h2
  · intro i j hi hj
    obtain ⟨_, r, _, _, d⟩ := key i j hi hj
    rw [d, r]; field_simp; ring
  · intro q hq
    obtain ⟨f, hf, hfu⟩ := hval q hq
    have hfne : f ≠ 0 := hfu ▸ div_ne_zero (hu _) (hu _)
    refine plain_rateRel2 currencies u _ _ _ _ _ q f hf hfu
      (cut_logderiv currencies q q0 f f0 hf hfne hf0 σ0 h0 (hoth0 q hq) (hsame0 q hq))
      (cut_logderiv currencies q q1 f f1 hf hfne hf1 σ1 h1 (hoth1 q hq) (hsame1 q hq)) ?_
    -- `q` is not both quotes, so one of the two cuts does not separate its currencies
    by_cases hn0 : fxVarName q = fxVarName q0
    · simp only [hoth1 q hq fun h => hne (hn0.symm.trans h)]; ring
    · simp only [hoth0 q hq hn0]; ring

/-- SECOND ORDER ON A TREE, one quote twice, nothing assumed about potentials or cuts. -/
theorem C10_second_order_same_tree (currencies : List String) (quotes : List (FXQuote ℝ))
    (hcount : quotes.length + 1 = currencies.length)
    (hidx : ∀ q ∈ quotes, (pairIdx currencies q).1 < currencies.length ∧
      (pairIdx currencies q).2 < currencies.length)
    (hplain : ∀ q ∈ quotes, ∃ f, q.rate = .f64 f ∧ f ≠ 0)
    (q0 : FXQuote ℝ) (hq0 : q0 ∈ quotes) (f0 : ℝ) (hf0 : q0.rate = .f64 f0)
    (hsame : ∀ q ∈ quotes, fxVarName q = fxVarName q0 →
      pairIdx currencies q = pairIdx currencies q0 ∧ q.rate = q0.rate)
    (a2 : Nat → Nat → Dual2 ℝ) (h2 : createFxArray currencies quotes .two = some (.dual2 a2)) :
    ∃ σ : Nat → ℝ, (∀ i, i < currencies.length → σ i = 0 ∨ σ i = 1) ∧
      σ (pairIdx currencies q0).1 = 1 ∧ σ (pairIdx currencies q0).2 = 0 ∧
      ∀ i j, i < currencies.length → j < currencies.length →
        Dual2.den2 (a2 i j) (fxVarName q0) (fxVarName q0)
          = 1 / 2 * (a2 i j).real * ((σ i - σ j) ^ 2 - (σ i - σ j)) / f0 ^ 2 := by
  have hconn := connectedE_of_create currencies quotes .two _ h2
  obtain ⟨u, hu, hval⟩ := potential_of_connected currencies quotes hcount hidx hplain hconn
  obtain ⟨σ, hσ01, hσa, hσb, hσo⟩ := cut_of_quote currencies quotes hcount hidx hconn q0 hq0
  exact ⟨σ, hσ01, hσa, hσb, C10_second_order_same currencies quotes u hu hval q0 f0 hf0
    (eq_of_plain hf0 (hval q0 hq0)) σ (by rw [hσa, hσb]; ring) hσo hsame a2 h2⟩

/-- SECOND ORDER ON A TREE, two different quotes, nothing assumed about potentials or cuts. -/
theorem C10_second_order_cross_tree (currencies : List String) (quotes : List (FXQuote ℝ))
    (hcount : quotes.length + 1 = currencies.length)
    (hidx : ∀ q ∈ quotes, (pairIdx currencies q).1 < currencies.length ∧
      (pairIdx currencies q).2 < currencies.length)
    (hplain : ∀ q ∈ quotes, ∃ f, q.rate = .f64 f ∧ f ≠ 0)
    (q0 q1 : FXQuote ℝ) (hq0 : q0 ∈ quotes) (hq1 : q1 ∈ quotes) (f0 f1 : ℝ)
    (hf0 : q0.rate = .f64 f0) (hf1 : q1.rate = .f64 f1) (hne : fxVarName q0 ≠ fxVarName q1)
    (hsame0 : ∀ q ∈ quotes, fxVarName q = fxVarName q0 →
      pairIdx currencies q = pairIdx currencies q0 ∧ q.rate = q0.rate)
    (hsame1 : ∀ q ∈ quotes, fxVarName q = fxVarName q1 →
      pairIdx currencies q = pairIdx currencies q1 ∧ q.rate = q1.rate)
    (a2 : Nat → Nat → Dual2 ℝ) (h2 : createFxArray currencies quotes .two = some (.dual2 a2)) :
    ∃ σ0 σ1 : Nat → ℝ, (∀ i, i < currencies.length → σ0 i = 0 ∨ σ0 i = 1) ∧
      (∀ i, i < currencies.length → σ1 i = 0 ∨ σ1 i = 1) ∧
      ∀ i j, i < currencies.length → j < currencies.length →
        Dual2.den2 (a2 i j) (fxVarName q0) (fxVarName q1)
          = 1 / 2 * (a2 i j).real * ((σ0 i - σ0 j) * (σ1 i - σ1 j)) / (f0 * f1) := by
  have hconn := connectedE_of_create currencies quotes .two _ h2
  obtain ⟨u, hu, hval⟩ := potential_of_connected currencies quotes hcount hidx hplain hconn
  obtain ⟨σ0, h01, ha0, hb0, ho0⟩ := cut_of_quote currencies quotes hcount hidx hconn q0 hq0
  obtain ⟨σ1, h11, ha1, hb1, ho1⟩ := cut_of_quote currencies quotes hcount hidx hconn q1 hq1
  exact ⟨σ0, σ1, h01, h11, C10_second_order_cross currencies quotes u hu hval q0 q1 f0 f1 hf0 hf1
    (eq_of_plain hf0 (hval q0 hq0)) (eq_of_plain hf1 (hval q1 hq1)) hne σ0 σ1
    (by rw [ha0, hb0]; ring) (by rw [ha1, hb1]; ring) ho0 ho1 hsame0 hsame1 a2 h2⟩

end Sensitivities

end Rateslib
