/-
C11  Curve look-ups follow each interpolation rule at, between and beyond nodes.
-/
import RateslibModel.Proofs.IndexLeft
import RateslibModel.Proofs.CurveSort
import RateslibModel.Proofs.InterpHom
import RateslibModel.Analysis.RealInst
namespace Rateslib

/-- The interval used for a date: for at least two nodes `index_left` terminates, and returns the
interval whose right end is the first node on or after the date, clamped to the first and last
intervals: `i ≤ n−2`; `i = 0` or `xs[i] < v`; `i = n−2` or `v ≤ xs[i+1]`. -/
theorem C11_index_left (xs : List Int) (v : Int) (h2 : 2 ≤ xs.length) :
    ∃ i, indexLeftInt xs v = some i ∧ IsLeftIndex xs v i := by
  obtain ⟨i, hi, hs⟩ := indexLeftAux_spec (xs.length + 1) xs v 0 h2 (by omega)
  exact ⟨i, by simpa [indexLeftInt, indexLeft] using hi, hs⟩

/-- For strictly increasing node dates that interval is unique: the answer is determined by the
property, whatever the bisection does. -/
theorem C11_index_left_unique (xs : List Int) (hs : xs.Pairwise (· < ·)) (v : Int) (i j : Nat)
    (hi : IsLeftIndex xs v i) (hj : IsLeftIndex xs v j) : i = j := by
  -- were `i < j`, then `v ≤ xs[i+1] ≤ xs[j] < v`
  have key : ∀ i j, IsLeftIndex xs v i → IsLeftIndex xs v j → ¬ i < j := by
    intro i j ⟨_, _, i3⟩ ⟨j1, j2, _⟩ h
    have hle : xs.getD (i + 1) 0 ≤ xs.getD j 0 := by
      rcases Nat.eq_or_lt_of_le (Nat.succ_le_of_lt h) with rfl | hlt
      · exact Int.le_refl _
      · have := List.pairwise_iff_getElem.1 hs (i + 1) j (by omega) (by omega) hlt
        rw [List.getElem_eq_getD 0, List.getElem_eq_getD 0] at this
        exact Int.le_of_lt this
    omega
  have := key i j hi hj
  have := key j i hj hi
  omega

/-- Corollaries in the property's words: before/at the second node ⇒ first interval; after the
last-but-one node ⇒ last interval; otherwise the bracketing interval. -/
theorem C11_index_left_cases (xs : List Int) (hs : xs.Pairwise (· < ·)) (v : Int) (i : Nat)
    (h : indexLeftInt xs v = some i) (h2 : 2 ≤ xs.length) :
    (v ≤ xs.getD 1 0 → i = 0) ∧ (xs.getD (xs.length - 2) 0 < v → i = xs.length - 2) := by
  obtain ⟨j, hj, hspec⟩ := C11_index_left xs v h2
  rw [h] at hj; cases hj
  refine ⟨fun hv => ?_, fun hv => ?_⟩
  · exact C11_index_left_unique xs hs v i 0 hspec ⟨by omega, Or.inl rfl, Or.inr (by simpa using hv)⟩
  · refine C11_index_left_unique xs hs v i (xs.length - 2) hspec ⟨by omega, ?_, Or.inl (by omega)⟩
    by_cases h0 : xs.length - 2 = 0
    · exact Or.inl h0
    · exact Or.inr hv

section Values
variable {α : Type} [Add α] [Sub α] [Mul α] [Div α] [Neg α] [OfNat α 0] [OfNat α 1] [OfNat α 2]
  [Transc α]

/-- A look-up uses exactly the two nodes of that interval (every rule, every value type): the value
is the rule's closed form `interpOn` of nodes `i`, `i+1`. -/
theorem C11_interval_used (c : Curve α) (ts : Int) (h2 : 2 ≤ c.keys.length) :
    ∃ i, IsLeftIndex c.keys ts i ∧
      c.value ts = (match c.vals with
        | .f64 v => (interpOn (α := α) c.interp c.keys v i ts).map Number.f64
        | .dual v => (interpOn (α := α) c.interp c.keys v i ts).map Number.dual
        | .dual2 v => (interpOn (α := α) c.interp c.keys v i ts).map Number.dual2) := by
  obtain ⟨i, hi, hs⟩ := C11_index_left c.keys ts h2
  refine ⟨i, hs, ?_⟩
  unfold Curve.value
  rw [hi]
  cases c.vals <;> rfl

/-- Flat rules return a node's value itself (no arithmetic, so exactly — for f64 too): flat-forward
is the left node's value up to but excluding the right node; flat-backward is the right node's
value after the left node. -/
theorem C11_flat_exact {τ : Type} [NumOps α τ] (keys : List Int) (vals : List τ) (i : Nat) (x x1 x2 : Int)
    (y1 y2 : τ) (hx1 : keys[i]? = some x1) (hx2 : keys[i + 1]? = some x2)
    (hy1 : vals[i]? = some y1) (hy2 : vals[i + 1]? = some y2) :
    interpOn (α := α) .flatForward keys vals i x = some (if x ≥ x2 then y2 else y1) ∧
    interpOn (α := α) .flatBackward keys vals i x = some (if x ≤ x1 then y1 else y2) := by
  simp [interpOn, hx1, hx2, hy1, hy2]

end Values

/-- straight line: hits both nodes and stays between them -/
theorem C11_linear (x1 x2 y1 y2 x : ℝ) (h : x1 < x2) :
    linearInterp (α := ℝ) (τ := ℝ) x1 y1 x2 y2 x1 = y1 ∧
    linearInterp (α := ℝ) (τ := ℝ) x1 y1 x2 y2 x2 = y2 ∧
    (x1 ≤ x → x ≤ x2 →
      min y1 y2 ≤ linearInterp (α := ℝ) (τ := ℝ) x1 y1 x2 y2 x ∧
      linearInterp (α := ℝ) (τ := ℝ) x1 y1 x2 y2 x ≤ max y1 y2) := by
  have hne : x2 - x1 ≠ 0 := by linarith
  have e : ∀ x : ℝ, linearInterp (α := ℝ) (τ := ℝ) x1 y1 x2 y2 x = y1 + (y2 - y1) * ((x - x1) / (x2 - x1)) :=
    fun _ => rfl
  refine ⟨by rw [e, sub_self, zero_div, mul_zero, add_zero],
    by rw [e, div_self hne, mul_one, add_sub_cancel], fun h1 h2 => ?_⟩
  rw [e]
  -- a weighted mean `(1 − t) y₁ + t y₂`, `0 ≤ t ≤ 1`, of two numbers lies between them
  have ht0 : 0 ≤ (x - x1) / (x2 - x1) := div_nonneg (by linarith) (by linarith)
  have ht1 : 0 ≤ 1 - (x - x1) / (x2 - x1) := by rw [sub_nonneg, div_le_one (by linarith)]; linarith
  generalize (x - x1) / (x2 - x1) = t at ht0 ht1
  have a1 := mul_le_mul_of_nonneg_left (min_le_left y1 y2) ht1
  have a2 := mul_le_mul_of_nonneg_left (min_le_right y1 y2) ht0
  have b1 := mul_le_mul_of_nonneg_left (le_max_left y1 y2) ht1
  have b2 := mul_le_mul_of_nonneg_left (le_max_right y1 y2) ht0
  constructor <;> linarith

/-- straight line in logarithms: hits both (positive) nodes and stays between them -/
theorem C11_log_linear (x1 x2 y1 y2 x : ℝ) (h : x1 < x2) (hy1 : 0 < y1) (hy2 : 0 < y2) :
    logLinearInterp (α := ℝ) (τ := ℝ) x1 y1 x2 y2 x1 = y1 ∧
    logLinearInterp (α := ℝ) (τ := ℝ) x1 y1 x2 y2 x2 = y2 ∧
    (x1 ≤ x → x ≤ x2 →
      min y1 y2 ≤ logLinearInterp (α := ℝ) (τ := ℝ) x1 y1 x2 y2 x ∧
      logLinearInterp (α := ℝ) (τ := ℝ) x1 y1 x2 y2 x ≤ max y1 y2) := by
  have e : ∀ x, logLinearInterp (α := ℝ) (τ := ℝ) x1 y1 x2 y2 x
      = Real.exp (linearInterp (α := ℝ) (τ := ℝ) x1 (Real.log y1) x2 (Real.log y2) x) := fun _ => rfl
  have e1 := Real.exp_log hy1
  have e2 := Real.exp_log hy2
  obtain ⟨l1, l2, l3⟩ := C11_linear x1 x2 (Real.log y1) (Real.log y2) x h
  refine ⟨by rw [e, l1, e1], by rw [e, l2, e2], fun h1 h2 => ?_⟩
  -- `exp` is monotone, so it carries the bounds `min (log y₁) (log y₂) ≤ · ≤ max (log y₁) (log y₂)` over
  obtain ⟨b1, b2⟩ := l3 h1 h2
  rw [e, ← e1, ← e2, ← Real.exp_monotone.map_min, ← Real.exp_monotone.map_max, e1, e2]
  exact ⟨Real.exp_le_exp.2 b1, Real.exp_le_exp.2 b2⟩

theorem eqb_real (x y : ℝ) : Transc.eqb x y = decide (x = y) := rfl
theorem ln_real0 (x : ℝ) : Transc.ln x = Real.log x := rfl

/-- straight line in the continuously-compounded zero rate measured from the first node `x0`: hits
the right node; hits the left node when that is not the first node; and at the first node itself
(whose own value is presumed to be 1) returns 1. -/
theorem C11_zero_rate (x0 x1 x2 y1 y2 : ℝ) (h01 : x0 ≤ x1) (h12 : x1 < x2) (hy1 : 0 < y1) (hy2 : 0 < y2) :
    linearZeroInterp (α := ℝ) (τ := ℝ) x0 x1 y1 x2 y2 x2 = y2 ∧
    (x0 < x1 → linearZeroInterp (α := ℝ) (τ := ℝ) x0 x1 y1 x2 y2 x1 = y1) ∧
    (x0 = x1 → linearZeroInterp (α := ℝ) (τ := ℝ) x0 x1 y1 x2 y2 x1 = 1) := by
  -- the rule is a straight line in the rate, which hits the two nodes' rates (`C11_linear`)
  obtain ⟨l1, l2, _⟩ := C11_linear (x1 - x0) (x2 - x0) (Real.log y1 * (-1 / (x1 - x0)))
    (Real.log y2 * (-1 / (x2 - x0))) 0 (by linarith)
  -- a value is recovered from its rate over a time `t ≠ 0`
  have back : ∀ y t : ℝ, 0 < y → t ≠ 0 → Real.exp (Real.log y * (-1 / t) * -t) = y := by
    intro y t hy ht
    rw [show Real.log y * (-1 / t) * -t = Real.log y by field_simp, Real.exp_log hy]
  have k2 := back y2 (x2 - x0) hy2 (by linarith)
  refine ⟨?_, fun h => ?_, fun h => ?_⟩
  · rw [linearZeroInterp_eq]
    split
    · exact k2
    · exact (congrArg (fun r => Real.exp (r * -(x2 - x0))) l2).trans k2
  · rw [linearZeroInterp_eq, eqb_real, decide_eq_false (by linarith : x1 - x0 ≠ 0)]
    exact (congrArg (fun r => Real.exp (r * -(x1 - x0))) l1).trans (back y1 _ hy1 (by linarith))
  · subst h
    rw [linearZeroInterp_eq]
    show Real.exp (_ * -(x0 - x0)) = 1
    rw [sub_self, neg_zero, mul_zero, Real.exp_zero]

/-- The order in which nodes are supplied does not matter (distinct dates): the constructed curve is
the same for every permutation of the node list. -/
theorem C11_order_irrelevant {α : Type} [OfNat α 0] [OfNat α 1]
    (n₁ n₂ : List (Int × Number α)) (hp : n₁.Perm n₂) (hd : (n₁.map Prod.fst).Nodup)
    (interp : Interp) (ad : ADOrder) (id : String) (base : Option α) :
    Curve.new n₁ interp ad id base = Curve.new n₂ interp ad id base := by
  unfold Curve.new
  rw [sortByKey_perm_invariant n₁ n₂ hp hd]

example : indexLeftInt [10, 20, 30, 40, 50] 30 = some 1 ∧ indexLeftInt [10, 20, 30, 40, 50] 31 = some 2
    ∧ indexLeftInt [10, 20, 30, 40, 50] 5 = some 0 ∧ indexLeftInt [10, 20, 30, 40, 50] 99 = some 3 := by decide
example : ([10, 20, 30, 40, 50] : List Int).Pairwise (· < ·) := by decide

end Rateslib
