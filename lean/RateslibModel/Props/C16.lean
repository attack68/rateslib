/-
C16  Saving and loading an object gives back an equal object.

PROVED: the binary pickling format, as modelled in Model/Serde.lean (bincode 1.3 + serde derive
layout: fixed-width little-endian integers, f64 bit patterns, length-prefixed sequences and strings,
u32 variant indices, Option tags, ndarray's {v, dim, data}), round-trips: for every value whose sizes
fit in 64 bits, decoding what was encoded — followed by anything — returns exactly that value and the
untouched remainder.  Floats are arbitrary 64-bit patterns, so "all finite floating-point contents"
(and more) is covered.  The model's bytes are compared byte for byte with the implementation's on every
run.
PROVED (JSON, document level): the documents `to_json` writes for every serialisable type (numbers of
every kind, the three calendar kinds, curves of every node and calendar kind, splines of every coefficient
type, FX markets) — the forms `writeDual`, `writeDual2`, `writeNumber`, `writeCal`, `writeUnionCal`,
`writeNamedCal`, `writeCurveG`, `writeSplineG`, `writeFXRates` of Model/Load.lean, recognised in the
implementation's own output on every run (`written` lines) — are accepted by the loader model with exactly the written shape,
whenever the contents satisfy the type invariants.
PARTIAL (DESIGN.md "C16 partial"): the JSON text layer (serde_json, ryu), the tagged entry point,
Cal/UnionCal (hash-ordered bytes) and "answers every query identically" are
validated by model-free round trips on the real code (they exposed a genuine defect, since repaired),
not by theorems.
-/
import RateslibModel.Proofs.Serde
import RateslibModel.Proofs.WriteLoad
import RateslibModel.Proofs.DualOps
import RateslibModel.Props.C06
namespace Rateslib.Serde

theorem C16_bincode_dual (d : SDual) (h : ValidDual d) (rest : Bytes) :
    decDual (encDual d ++ rest) = some (d, rest) := lawful_dual d h rest

theorem C16_bincode_dual2 (d : SDual2) (h : ValidDual2 d) (rest : Bytes) :
    decDual2 (encDual2 d ++ rest) = some (d, rest) := lawful_dual2 d h rest

theorem C16_bincode_number (x : SNumber) (h : ValidNumber x) (rest : Bytes) :
    decNumber (encNumber x ++ rest) = some (x, rest) := lawful_number x h rest

/-- splines of all three types (coefficients floats, Dual or Dual2; solved or not) -/
theorem C16_bincode_spline_f64 (s : SSpline Nat) (h : ValidSpline (fun b => b < 2 ^ 64) s) (rest : Bytes) :
    decSpline decU64 (encSpline encU64 s ++ rest) = some (s, rest) :=
  lawful_spline encU64 decU64 _ lawful_u64 s h rest

theorem C16_bincode_spline_dual (s : SSpline SDual) (h : ValidSpline ValidDual s) (rest : Bytes) :
    decSpline decDual (encSpline encDual s ++ rest) = some (s, rest) :=
  lawful_spline encDual decDual _ lawful_dual s h rest

theorem C16_bincode_spline_dual2 (s : SSpline SDual2) (h : ValidSpline ValidDual2 s) (rest : Bytes) :
    decSpline decDual2 (encSpline encDual2 s ++ rest) = some (s, rest) :=
  lawful_spline encDual2 decDual2 _ lawful_dual2 s h rest

/-- an FX market is stored as its quotes and currencies only -/
theorem C16_bincode_fxrates (f : SFXRates) (h : ValidFXRates f) (rest : Bytes) :
    decFXRates (encFXRates f ++ rest) = some (f, rest) := lawful_fxrates f h rest

/-- a named calendar is stored by name only -/
theorem C16_bincode_named_cal (name : Bytes) (h : name.length < 2 ^ 64) (rest : Bytes) :
    decNamedCal (encNamedCal name ++ rest) = some (name, rest) := lawful_str name h rest

/-- a curve with a named calendar: typed node map (all nodes of the map's kind), interpolator, id,
convention, modifier, optional index base, calendar name -/
theorem C16_bincode_curve (c : SCurve) (h : ValidCurve c) (rest : Bytes) :
    decCurve (encCurve c ++ rest) = some (c, rest) := lawful_curve c h rest

/-! Non-vacuity: the bytes observed for `Dual(2.5, [x, yy], [1.0, -0.5])`. -/
example : encDual ⟨0x4004000000000000, [[0x78], [0x79, 0x79]], ⟨2, [0x3ff0000000000000, 0xbfe0000000000000]⟩⟩
    = [0,0,0,0,0,0,4,0x40, 2,0,0,0,0,0,0,0, 1,0,0,0,0,0,0,0, 0x78, 2,0,0,0,0,0,0,0, 0x79,0x79,
       1, 2,0,0,0,0,0,0,0, 2,0,0,0,0,0,0,0, 0,0,0,0,0,0,0xf0,0x3f, 0,0,0,0,0,0,0xe0,0xbf] := by decide

end Rateslib.Serde

namespace Rateslib
open Load

/-- A saved first-order number loads: the document `to_json` writes for a number with distinct names and one
coefficient per name is accepted, with that many names and coefficients. -/
theorem C16_written_dual_loads (re : JNum) (names : List String) (d : List JNum) (hn : names.Nodup)
    (hl : d.length = names.length) (hsz : d.length < 2 ^ 64) :
    loadDual (writeDual re names d) = some ⟨names.length, names.length⟩ := by
  rw [loadDual, rawDual, writeDual, fieldsOf_obj _ _ (by rfl) (by decide)]
  simp [req, asF64, asVec, asArr1_nd1 d hsz, dedup_of_nodup names hn, validDual, hl]

/-- A saved second-order number loads (n names, n coefficients, an n × n second-order block). -/
theorem C16_written_dual2_loads (re : JNum) (names : List String) (d h : List JNum) (hn : names.Nodup)
    (hl : d.length = names.length) (hh : h.length = names.length * names.length) (hsz : d.length < 2 ^ 64) :
    loadDual2 (writeDual2 re names d h) = some ⟨names.length, names.length, names.length, names.length⟩ := by
  have hsz' : names.length < 2 ^ 64 := hl ▸ hsz
  rw [loadDual2, rawDual2, writeDual2, fieldsOf_obj _ _ (by rfl) (by decide)]
  simp [req, asF64, asVec, asArr1_nd1 d hsz, asArr2_nd2 _ _ h hsz' hsz' hh,
    dedup_of_nodup names hn, validDual2, hl]

/-- A saved `Number` of any kind loads. -/
theorem C16_written_number_loads (n : NumDoc) (h : n.OK) : loadNumber (writeNumber n) = some () := by
  cases n with
  | f64 x => rfl
  | dual re names d =>
    obtain ⟨h1, h2, h3⟩ := h
    simp [loadNumber, writeNumber, enumOf, C16_written_dual_loads re names d h1 h2 h3]
  | dual2 re names d hh =>
    obtain ⟨h1, h2, h3, h4⟩ := h
    simp [loadNumber, writeNumber, enumOf, C16_written_dual2_loads re names d hh h1 h2 h3 h4]

theorem C16_written_dual_coeffs_load :
    (∀ ds : List (JNum × List String × List JNum), (∀ x ∈ ds, NumDoc.OK (.dual x.1 x.2.1 x.2.2)) →
      (ds.map (fun x => writeDual x.1 x.2.1 x.2.2)).mapM loadDual
        = some (ds.map (fun x => ⟨x.2.1.length, x.2.1.length⟩))) ∧
    (∀ ds : List (JNum × List String × List JNum × List JNum),
      (∀ x ∈ ds, NumDoc.OK (.dual2 x.1 x.2.1 x.2.2.1 x.2.2.2)) →
      (ds.map (fun x => writeDual2 x.1 x.2.1 x.2.2.1 x.2.2.2)).mapM loadDual2
        = some (ds.map (fun x => ⟨x.2.1.length, x.2.1.length, x.2.1.length, x.2.1.length⟩))) := by
  constructor
  · intro ds h
    rw [List.mapM_map]
    refine mapM_of_forall _ _ ds fun x hx => ?_
    obtain ⟨h1, h2, h3⟩ := h x hx
    exact C16_written_dual_loads _ _ _ h1 h2 h3
  · intro ds h
    rw [List.mapM_map]
    refine mapM_of_forall _ _ ds fun x hx => ?_
    obtain ⟨h1, h2, h3, h4⟩ := h x hx
    exact C16_written_dual2_loads _ _ _ _ h1 h2 h3 h4

/-- A saved calendar loads with all its holidays and mask days (distinct holidays in the library's datetime
text, distinct weekday names, in any order — the mask is stored as a hash set). -/
theorem C16_written_cal_loads (c : List String × List String) (h : CalDocOK c) :
    loadCal (writeCal c.1 c.2) = some ⟨c.1.length, c.2.length⟩ := by
  obtain ⟨⟨ds, hd, hdn⟩, ⟨ws, hw, hwn⟩⟩ := h
  have h1 : List.mapM (asDateTime ∘ JVal.str) c.1 = some ds := (mapM_eq_some_iff _ _ _).mpr hd
  have h2 : List.mapM (asWeekday ∘ JVal.str) c.2 = some ws := (mapM_eq_some_iff _ _ _).mpr hw
  have l1 := length_mapM_some _ _ _ h1
  have l2 := length_mapM_some _ _ _ h2
  rw [loadCal, writeCal, fieldsOf_obj _ _ (by rfl) (by decide)]
  simp [req, asVec, h1, h2, eraseDups_of_nodup _ hdn, eraseDups_of_nodup _ hwn, l1, l2]

/-- A saved union of calendars loads with all members and all settlement calendars (or none). -/
theorem C16_written_unioncal_loads (cals : List (List String × List String))
    (settle : Option (List (List String × List String)))
    (hc : ∀ c ∈ cals, CalDocOK c) (hs : ∀ ss, settle = some ss → ∀ c ∈ ss, CalDocOK c) :
    loadUnionCal (writeUnionCal cals settle) = some (cals.length, settle.map List.length) := by
  have hcals (cs : List (List String × List String)) (h : ∀ c ∈ cs, CalDocOK c) :
      List.mapM (loadCal ∘ fun c => writeCal c.1 c.2) cs
        = some (cs.map (fun c => ⟨c.1.length, c.2.length⟩)) :=
    mapM_of_forall _ _ cs fun c hc => C16_written_cal_loads c (h c hc)
  unfold writeUnionCal
  rw [loadUnionCal, fieldsOf_obj _ _ (by rfl) (by decide)]
  cases settle with
  | none => simp [req, opt, asOpt, asVec, hcals cals hc]
  | some ss => simp [req, opt, asOpt, asVec, hcals cals hc, hcals ss (hs ss rfl)]

/-- A named calendar is stored by its (lower-cased) name only and REBUILT on loading: the stored name is
accepted again and names the same calendars. -/
theorem C16_written_namedcal_loads (table : String → Option Cal) (name nm : String) (u : UnionCal)
    (h : namedTryNew table name = .ok (nm, u)) :
    loadNamedCal table (writeNamedCal nm) = some nm ∧ namedTryNew table nm = .ok (nm, u) := by
  have hnm : nm = lowerStr name := (C06_named_is_union table name nm u h).1
  have h2 : namedTryNew table nm = .ok (nm, u) := by rw [hnm, namedTryNew_lower, ← hnm, h]
  refine ⟨?_, h2⟩
  rw [loadNamedCal, writeNamedCal, fieldsOf_obj _ _ (by rfl) (by decide)]
  simp [req, asStr, h2]

theorem C16_written_caltype_loads (table : String → Option Cal) :
    (∀ c, CalDocOK c → loadCalType table (.obj [("Cal", writeCal c.1 c.2)]) = some "Cal") ∧
    (∀ cals settle, (∀ c ∈ cals, CalDocOK c) → (∀ ss, settle = some ss → ∀ c ∈ ss, CalDocOK c) →
      loadCalType table (.obj [("UnionCal", writeUnionCal cals settle)]) = some "UnionCal") ∧
    (∀ nm, loadNamedCal table (writeNamedCal nm) = some nm →
      loadCalType table (.obj [("NamedCal", writeNamedCal nm)]) = some "NamedCal") :=
  ⟨fun c h => by simp [loadCalType, enumOf, C16_written_cal_loads c h],
   fun cals settle hc hs => by simp [loadCalType, enumOf, C16_written_unioncal_loads cals settle hc hs],
   fun nm h => by simp [loadCalType, enumOf, h]⟩

/-- A saved spline of ANY coefficient type loads, before or after `csolve`, given that its coefficient
documents load (floats: `C16_written_spline_loads`; dual numbers: `C16_written_dual_coeffs_load`). -/
theorem C16_written_spline_any_loads {α : Type} (elem : JVal → Option α) (k : Nat) (t : List JNum)
    (c : Option (List JVal)) (n : Nat)
    (ht : 2 ≤ t.length) (hs : sortedNums t = true) (hk : k ≤ t.length) (hn : n = t.length - k)
    (hc : ∀ items, c = some items → items.length = n ∧ ∃ vals, items.mapM elem = some vals)
    (hsz : t.length < 2 ^ 64) :
    loadSpline elem (writeSplineG k t c n) = some ⟨k, t.length, n, c.map List.length⟩ := by
  unfold writeSplineG
  rw [loadSpline, fieldsOf_obj _ _ (by rfl) (by decide)]
  simp only [List.map, req, loadSplineInner]
  rw [fieldsOf_obj _ _ (by rfl) (by decide)]
  have hk' : k < 18446744073709551616 := by omega
  have hn' : n < 18446744073709551616 := by omega
  cases c with
  | none =>
    simpa [req, opt, asOpt, asUsize, natNum, hk', hn', asVec] using
      (validSpline_eq_some_iff k t none n _).mpr ⟨⟨ht, hs, hk, hn, fun _ h => nomatch h⟩, rfl⟩
  | some items =>
    obtain ⟨hl, vals, hvals⟩ := hc items rfl
    have hvl := length_mapM_some elem items vals hvals
    have hnn : asOpt (asArr1 elem) (nd1g items) = (asArr1 elem (nd1g items)).map some := rfl
    simpa [req, opt, hnn, asArr1_nd1g elem items vals hvals (by omega), asUsize, natNum, hk', hn', asVec, hvl] using
      (validSpline_eq_some_iff k t (some items.length) n _).mpr
        ⟨⟨ht, hs, hk, hn, fun _ h => Option.some.inj h ▸ hl⟩, rfl⟩

/-- A saved float spline loads, before or after `csolve`: order `k`, sorted knots, `n = len t − k`, and — if
solved — `n` coefficients. -/
theorem C16_written_spline_loads (k : Nat) (t : List JNum) (c : Option (List JNum)) (n : Nat)
    (ht : 2 ≤ t.length) (hs : sortedNums t = true) (hk : k ≤ t.length) (hn : n = t.length - k)
    (hc : ∀ xs, c = some xs → xs.length = n) (hsz : t.length < 2 ^ 64) :
    loadSpline asF64 (writeSplineF64 k t c n) = some ⟨k, t.length, n, c.map List.length⟩ := by
  rw [writeSplineF64_eq, C16_written_spline_any_loads asF64 k t _ n ht hs hk hn ?_ hsz]
  · cases c <;> simp
  · intro items hi
    obtain ⟨xs, rfl, rfl⟩ := Option.map_eq_some_iff.mp hi
    exact ⟨by simpa using hc xs rfl, xs, by simp⟩

/-- first-order nodes under distinct integer keys: every node is read back, in document order -/
theorem C16_written_dual_nodes_load (keys : List String) (ks : List Int)
    (ds : List (JNum × List String × List JNum))
    (hk : keys.map parseI64Key = ks.map some) (hd : ks.Nodup) (hl : ds.length = keys.length)
    (h : ∀ x ∈ ds, NumDoc.OK (.dual x.1 x.2.1 x.2.2)) :
    loadNodes (.obj [("Dual", .obj (keys.zip (ds.map (fun x => writeDual x.1 x.2.1 x.2.2))))])
      = some (.dual (ds.map (fun x => ⟨x.2.1.length, x.2.1.length⟩))) :=
  loadNodes_written loadDual NodesShape.dual keys ks _ _ hk hd (C16_written_dual_coeffs_load.1 ds h)
    (by simpa using hl)

theorem C16_written_dual2_nodes_load (keys : List String) (ks : List Int)
    (ds : List (JNum × List String × List JNum × List JNum))
    (hk : keys.map parseI64Key = ks.map some) (hd : ks.Nodup) (hl : ds.length = keys.length)
    (h : ∀ x ∈ ds, NumDoc.OK (.dual2 x.1 x.2.1 x.2.2.1 x.2.2.2)) :
    loadNodes (.obj [("Dual2", .obj (keys.zip (ds.map (fun x => writeDual2 x.1 x.2.1 x.2.2.1 x.2.2.2))))])
      = some (.dual2 (ds.map (fun x => ⟨x.2.1.length, x.2.1.length, x.2.1.length, x.2.1.length⟩))) :=
  loadNodes_written loadDual2 NodesShape.dual2 keys ks _ _ hk hd (C16_written_dual_coeffs_load.2 ds h)
    (by simpa using hl)

/-- A saved curve of ANY node kind and ANY calendar kind loads: given that its node document and its calendar
document load (`C16_written_dual_nodes_load`, `C16_written_dual2_nodes_load`, `C16_written_caltype_loads`),
every rule, convention and modifier the library defines, with or without an index base. -/
theorem C16_written_curve_any_loads (table : String → Option Cal) (nodesDoc calDoc : JVal) (ns : NodesShape)
    (kind : String) (interp id conv modi : String) (base : Option JNum)
    (hn : loadNodes nodesDoc = some ns) (hcal : loadCalType table calDoc = some kind)
    (hi : interp ∈ interpolatorNames) (hc : conv ∈ conventionNames) (hm : modi ∈ modifierNames) :
    loadCurve table (writeCurveG nodesDoc calDoc interp id conv modi base)
      = some ⟨ns, interp, id, conv, modi, base.isSome, kind⟩ := by
  unfold writeCurveG
  rw [loadCurve, fieldsOf_obj _ _ (by rfl) (by decide)]
  simp only [List.map, req, loadCurveDF]
  rw [fieldsOf_obj _ _ (by rfl) (by decide)]
  simp only [List.map, hn, loadInterpolator_written interp hi, asStr, unitEnumOf_str _ _ hc,
    unitEnumOf_str _ _ hm, hcal]
  cases base <;> rfl

/-- A saved float-noded curve loads with ALL its nodes: distinct timestamps written as integer literals (of
any sign and digit count), any interpolation rule, convention and modifier, with or without an index base.
-/
theorem C16_written_curve_loads (table : String → Option Cal) (keys : List String) (ks : List Int)
    (vals : List JNum) (interp id conv modi : String) (base : Option JNum) (cal : String)
    (hk : keys.map parseI64Key = ks.map some) (hd : ks.Nodup) (hl : vals.length = keys.length)
    (hi : interp ∈ interpolatorNames) (hc : conv ∈ conventionNames) (hm : modi ∈ modifierNames)
    (hcal : loadNamedCal table (.obj [("name", .str cal)]) = some cal) :
    loadCurve table (writeCurveF64 keys vals interp id conv modi base cal)
      = some ⟨.f64 keys.length, interp, id, conv, modi, base.isSome, "NamedCal"⟩ := by
  -- float nodes: only their count is kept
  have hnodes : loadNodes (.obj [("F64", .obj (keys.zip (vals.map .num)))]) = some (.f64 keys.length) :=
    hl ▸ loadNodes_written asF64 (fun vs => NodesShape.f64 vs.length) keys ks (vals.map .num) vals hk hd (by simp)
      (by simpa using hl)
  rw [writeCurveF64_eq]
  exact C16_written_curve_any_loads table _ _ _ _ interp id conv modi base hnodes
    ((C16_written_caltype_loads table).2.2 cal hcal) hi hc hm

/-- A saved FX market reaches the loader's `try_new` with exactly the stored quotes and currencies (stored
names are fixed points of `Ccy::try_new`, stored pairs are distinct, the settlement text is the date it
stands for): loading the written document IS the validation of the stored state, so a market that was valid
when saved loads. -/
theorem C16_written_fxrates_loads (qs : List WQuote) (cs : List String) (hq : ∀ q ∈ qs, q.OK)
    (hc : ∀ c ∈ cs, ccyTryNew c = some c) (hn : cs.Nodup) :
    loadFXRates (writeFXRates qs cs) = validFXRates (qs.map WQuote.shape) cs := by
  have hquote (q : WQuote) (h : q.OK) : loadFXRate (writeFXRate q) = some q.shape := by
    obtain ⟨h1, h2, h3, hro, h4⟩ := h
    have hp : loadFXPair (.arr [ccyDoc q.lhs, ccyDoc q.rhs]) = some (q.lhs, q.rhs) := by
      simp [loadFXPair, loadCcy_doc _ h1, loadCcy_doc _ h2, h3]
    have hr : loadNumber (writeNumber q.rate) = some () := C16_written_number_loads q.rate hro
    rw [loadFXRate, writeFXRate, fieldsOf_obj _ _ (by rfl) (by decide)]
    cases hs : q.settlement with
    | none => simp [req, opt, asOpt, hp, hr, hs, WQuote.shape]
    | some sd => simp [req, opt, asOpt, hp, hr, hs, WQuote.shape, asDateTime, asStr, h4 sd.1 sd.2 hs]
  have h1 : List.mapM (loadFXRate ∘ writeFXRate) qs = some (qs.map WQuote.shape) :=
    mapM_of_forall _ _ qs fun q hqm => hquote q (hq q hqm)
  have h2 : List.mapM (loadCcy ∘ ccyDoc) cs = some cs :=
    mapM_of_forall_id _ cs fun c hcm => loadCcy_doc c (hc c hcm)
  rw [loadFXRates, writeFXRates, fieldsOf_obj _ _ (by rfl) (by decide)]
  simp [req, asVec, h1, h2, dedup_of_nodup cs hn]

/-- the tagged entry point on a tagged document is the inner loader of that tag -/
theorem C16_tagged_is_inner (table : String → Option Cal) (body : JVal) :
    loadTagged table (.obj [("Dual", body)]) = ofOpt .dual (loadDual body) ∧
    loadTagged table (.obj [("Dual2", body)]) = ofOpt .dual2 (loadDual2 body) ∧
    loadTagged table (.obj [("Cal", body)]) = ofOpt .cal (loadCal body) ∧
    loadTagged table (.obj [("UnionCal", body)]) = ofOpt (fun p => .unionCal p.1 p.2) (loadUnionCal body) ∧
    loadTagged table (.obj [("NamedCal", body)]) = ofOpt .namedCal (loadNamedCal table body) ∧
    loadTagged table (.obj [("FXRates", body)]) = ofOpt .fxRates (loadFXRates body) ∧
    loadTagged table (.obj [("PPSplineF64", body)]) = ofOpt (.spline "PPSplineF64") (loadSpline asF64 body) ∧
    loadTagged table (.obj [("PPSplineDual", body)]) = ofOpt (.spline "PPSplineDual") (loadSpline loadDual body) ∧
    loadTagged table (.obj [("PPSplineDual2", body)]) = ofOpt (.spline "PPSplineDual2") (loadSpline loadDual2 body) ∧
    loadTagged table (.obj [("Curve", body)]) = ofOpt .curve (loadCurve table body) := by
  refine ⟨?_, ?_, ?_, ?_, ?_, ?_, ?_, ?_, ?_, ?_⟩ <;> simp [loadTagged, enumOf]

/-- … so every `C16_written_*_loads` theorem is a statement about the tagged `from_json` as well; for
instance a saved first-order number, wrapped in its tag as the tagged `to_json` writes it, loads as a `Dual`
of that shape. -/
theorem C16_written_tagged_dual_loads (table : String → Option Cal) (re : JNum) (names : List String)
    (d : List JNum) (hn : names.Nodup) (hl : d.length = names.length) (hsz : d.length < 2 ^ 64) :
    loadTagged table (.obj [("Dual", writeDual re names d)]) = .ok (.dual ⟨names.length, names.length⟩) := by
  rw [(C16_tagged_is_inner table _).1, C16_written_dual_loads re names d hn hl hsz]
  rfl

example : CalDocOK (["2024-12-25T00:00:00", "1999-01-01T00:00:00"], ["Sat", "Sun"]) :=
  ⟨⟨[1735084800, 915148800], by decide +kernel, by decide⟩, ⟨[5, 6], by decide +kernel, by decide⟩⟩

/-! Non-vacuity: integer literals of different sign and digit count are keys; a concrete written document. -/
example : ["-86400", "999999999", "1000000000"].map parseI64Key
    = [-86400, 999999999, 1000000000].map some := by
  decide +kernel
example :
    (⟨"eur", "usd", .f64 ⟨false, 11, -1, false⟩, some ("2004-01-01T00:00:00", 1072915200)⟩ : WQuote).OK := by
  refine ⟨by decide +kernel, by decide +kernel, by decide, trivial, ?_⟩
  intro s d h
  injection h with h; injection h with h1 h2
  subst h1; subst h2
  decide +kernel
example : loadDual (writeDual ⟨false, 25, -1, false⟩ ["x", "yy"] [natNum 1, ⟨true, 5, -1, false⟩])
    = some ⟨2, 2⟩ := by
  decide +kernel

end Rateslib
