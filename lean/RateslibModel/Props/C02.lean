/-
C02  Second-order automatic differentiation is exact and consistent with first order.

Chain of the proof: (1) the second-order chain rules the Dual2 code applies — written as scalar 2-jets
`J2 = (value, first derivative, HALF second derivative)` along a direction — are sound for every formula
of C01's grammar (`C02_second_exact`) and agree with the first-order rules (`C02_proj`); (2) the
LIST-LEVEL `Dual2` arithmetic of Model/Dual.lean (alignment of gradient and Hessian blocks by variable
name, whatever the layouts of the operands) refines these jets along every direction in the plane of
two variable names (`C02_refines`, by induction over the formula with the name-indexed specifications
of Proofs/Dual2Layout.lean and Analysis/Refine2.lean); hence (3) value, gradient and Hessian entries —
diagonal AND mixed — of the list-level result are the true derivatives (`C02_hessian_exact`,
`C02_hessian_entries`), and the Hessian is symmetric (`C02_symmetric`); the read-back doubles the stored
half-Hessian (`C02_readback`); converting down drops only the Hessian.
-/
import RateslibModel.Analysis.Refine2
import RateslibModel.Props.C17
import RateslibModel.Proofs.Jet2Ring
namespace Rateslib
open Expr

/-- Second-order exactness of the rules: along any curve of leaf values that is twice differentiable
at `t₀` with 2-jets `j i`, the formula `t ↦ evalR e (u t)` has value, first derivative and half second
derivative given by the three components of `evalJ2 e j` — the Dual2 rules of mul.rs, pow.rs,
math_funcs.rs, signed.rs, neg.rs projected on the direction of the curve. -/
theorem C02_second_exact (e : Expr) (u : Nat → ℝ → ℝ) (t₀ : ℝ) (j : Nat → J2)
    (hu : ∀ i, Jet2At (u i) t₀ (j i).v0 (j i).v1 (j i).v2) (hd : Dom2 e (fun i => u i t₀)) :
    Jet2At (fun t => evalR e (fun i => u i t)) t₀ (evalJ2 e j).v0 (evalJ2 e j).v1 (evalJ2 e j).v2 :=
  jet2_sound e u t₀ j hu hd

/-- The value and first-derivative components of the second-order rules ARE the first-order rules of C01: an
identity of the two formulas, operator by operator (no differentiability enters). -/
theorem Expr.evalJ2_proj (e : Expr) (j : Nat → J2) :
    ((evalJ2 e j).v0, (evalJ2 e j).v1) = evalJ e (fun i => ((j i).v0, (j i).v1)) := by
  induction e with
  | leaf i => rfl
  | const c => rfl
  | add a b iha ihb => simp only [evalJ, evalJ2, ← iha, ← ihb]
  | sub a b iha ihb => simp only [evalJ, evalJ2, ← iha, ← ihb]
  | mul a b iha ihb => simp only [evalJ, evalJ2, mulJ2, ← iha, ← ihb]
  | div a b iha ihb =>
    -- `a / b` is `a * b.pow(-1)` at second order, `a * (1/b, -1/b² · b')` at first
    simp only [evalJ, evalJ2, mulJ2, powJ2, ← iha, ← ihb, Real.rpow_neg_one, rpow_neg_two]
    exact Prod.ext (by ring) (by ring)
  | neg a iha => simp only [evalJ, evalJ2, ← iha]
  | powc a p iha =>
    simp only [evalJ, evalJ2, powJ2, ← iha]
    exact Prod.ext rfl (by ring)
  | exp a iha => simp only [evalJ, evalJ2, ← iha]
  | log a iha => simp only [evalJ, evalJ2, ← iha]
  | ncdf a iha => simp only [evalJ, evalJ2, ← iha]
  | nicdf a iha => simp only [evalJ, evalJ2, ← iha]
  | abs a iha =>
    simp only [evalJ, evalJ2, ← iha]
    split <;> rfl

/-- The same value and gradient as the first-order type: the value and first-derivative components
of the second-order rules coincide with the first-order rules of C01, wherever the formula is twice
differentiable. -/
theorem C02_proj (e : Expr) (j : Nat → J2) (hd : Dom2 e (fun i => (j i).v0)) :
    (evalJ2 e j).v0 = (evalJ e (fun i => ((j i).v0, (j i).v1))).1 ∧
    (evalJ2 e j).v1 = (evalJ e (fun i => ((j i).v0, (j i).v1))).2 :=
  ⟨congrArg Prod.fst (evalJ2_proj e j), congrArg Prod.snd (evalJ2_proj e j)⟩

/-- Converting the second-order result down to first order loses nothing but the Hessian. -/
theorem C02_from_drops_only_hessian {α : Type} (d : Dual2 α) :
    (Dual.ofDual2 d).real = d.real ∧ (Dual.ofDual2 d).vars = d.vars ∧ (Dual.ofDual2 d).dual = d.dual :=
  ⟨rfl, rfl, rfl⟩

/-- The Hessian read back per variable pair is twice the stored half-Hessian, in the order asked for
(so with `C02_second_exact`: the read-back quadratic form `hᵀ H h` is the true second directional
derivative). -/
theorem C02_readback {α : Type} [CommRing α] (d : Dual2 α) (vs : List String) (hd : d.WF) (hv : vs.Nodup) :
    d.gradient2 vs = vs.map (fun v => vs.map (fun w => 2 * Dual2.den2 d v w)) :=
  C17_gradient2 d vs hd hv

/-- The product rule's cross term is symmetrised: as a quadratic form `½(αβᵀ + βαᵀ)` contributes
`a1·b1`, and the jet product is commutative (the Hessian of a product does not depend on operand
order). -/
theorem C02_mul_comm (a b : J2) : mulJ2 a b = mulJ2 b a := mul_comm a b

/-- REFINEMENT: for every formula, every shape-valid leaves (any layouts) and every direction
`α·e_v + β·e_w`, the list-level second-order evaluation is shape-valid and its (value, directional
derivative, half directional second derivative) is the scalar 2-jet of the formula at the leaves' jets. -/
theorem C02_refines (e : Expr) (env : Nat → Dual2 ℝ) (hwf : ∀ i, (env i).WF) (α β : ℝ) (v w : String) :
    (evalD2 e env).WF ∧
      dirJet α β v w (evalD2 e env) = evalJ2 e (fun i => dirJet α β v w (env i)) :=
  evalD2_refines e env hwf α β v w

/-- Hence the list-level result carries the TRUE derivatives: let the leaf values move along any
curves `u i` whose 2-jets at `t₀` are the leaves' jets in the direction `α·e_v + β·e_w`; then
`t ↦ e(u t)` has at `t₀` the value `real`, the first derivative `α·∂_v + β·∂_w` and the half second
derivative `α²·H_vv + αβ·(H_vw + H_wv) + β²·H_ww` read off the evaluated `Dual2` number by NAME. -/
theorem C02_hessian_exact (e : Expr) (env : Nat → Dual2 ℝ) (hwf : ∀ i, (env i).WF) (α β : ℝ)
    (v w : String) (u : Nat → ℝ → ℝ) (t₀ : ℝ)
    (hu : ∀ i, Jet2At (u i) t₀ (dirJet α β v w (env i)).v0 (dirJet α β v w (env i)).v1
      (dirJet α β v w (env i)).v2)
    (hd : Dom2 e (fun i => u i t₀)) :
    Jet2At (fun t => evalR e (fun i => u i t)) t₀ (evalD2 e env).real
      (α * Dual2.den (evalD2 e env) v + β * Dual2.den (evalD2 e env) w)
      (α * α * Dual2.den2 (evalD2 e env) v v
        + α * β * (Dual2.den2 (evalD2 e env) v w + Dual2.den2 (evalD2 e env) w v)
        + β * β * Dual2.den2 (evalD2 e env) w w) := by
  have h := jet2_sound e u t₀ (fun i => dirJet α β v w (env i)) hu hd
  rw [← (C02_refines e env hwf α β v w).2] at h
  exact h

/-- The Hessian is symmetric by name whenever the leaves' are. -/
theorem C02_symmetric (e : Expr) (env : Nat → Dual2 ℝ) (hwf : ∀ i, (env i).WF)
    (hs : ∀ i, ∀ n w, Dual2.den2 (env i) n w = Dual2.den2 (env i) w n) (n w : String) :
    Dual2.den2 (evalD2 e env) n w = Dual2.den2 (evalD2 e env) w n :=
  evalD2_sym e env hwf hs n w

/-- Entries: the diagonal entry `H_vv` is the half second derivative along `e_v`; the mixed entry is
obtained by polarisation — the half second derivative along `e_v + e_w` minus those along `e_v` and
`e_w` is `H_vw + H_wv = 2·H_vw`. (Pure algebra on `dirJet`; with `C02_hessian_exact` and
`C02_symmetric` this identifies every stored entry with half the true second partial derivative.) -/
theorem C02_hessian_entries (d : Dual2 ℝ) (v w : String) :
    (dirJet 1 0 v w d).v2 = Dual2.den2 d v v ∧
    (dirJet 1 1 v w d).v2 - (dirJet 1 0 v w d).v2 - (dirJet 0 1 v w d).v2
      = Dual2.den2 d v w + Dual2.den2 d w v := by
  constructor <;> simp only [dirJet] <;> ring

/-! Non-vacuity -/
example : Dom2 (.div (.log (.mul (.leaf 0) (.leaf 1))) (.leaf 2)) (fun i => (i : ℝ) + 2) := by
  simp only [Dom2, evalR, true_and]
  norm_num

theorem dirJet_same_parts (d : Dual2 ℝ) (r α β : ℝ) (v w : String) :
    dirJet α β v w ⟨r, d.vars, d.dual, d.dual2⟩ = ⟨r, (dirJet α β v w d).v1, (dirJet α β v w d).v2⟩ := rfl

/-- Mixed operands at second order: a float on either side of + − × ÷ gives the same number — value, every
first and every second derivative, i.e. the same 2-jet along every direction `α·e_v + β·e_w` — as promoting
the float to a variable-free constant (`x + f`, `x − f`, `f − x`, `x · f`, `x / f`, `f / x`; `f + x` and
`f · x` are the commutative expansions of the first and fourth). -/
theorem C02_mixed_eq_promoted (f : ℝ) (d : Dual2 ℝ) (hd : d.WF) (α β : ℝ) (v w : String) :
    dirJet α β v w (Dual2.addF d f) = dirJet α β v w (Dual2.add false d (Dual2.new f [])) ∧
    dirJet α β v w (Dual2.subF d f) = dirJet α β v w (Dual2.sub false d (Dual2.new f [])) ∧
    dirJet α β v w (Dual2.fSub f d) = dirJet α β v w (Dual2.sub false (Dual2.new f []) d) ∧
    dirJet α β v w (Dual2.mulF d f) = dirJet α β v w (Dual2.mul false d (Dual2.new f [])) ∧
    dirJet α β v w (Dual2.divF d f) = dirJet α β v w (Dual2.div false d (Dual2.new f [])) ∧
    dirJet α β v w (Dual2.fDiv f d) = dirJet α β v w (Dual2.div false (Dual2.new f []) d) := by
  -- each promoted form is a formula over the one leaf `d`, so its jet is given by `evalD2_refines`;
  -- each float form is one chain-rule shape of `d`
  have R := fun e => (evalD2_refines e (fun _ => d) (fun _ => hd) α β v w).2
  have e1 : ∀ x : ℝ, x ^ (-1 : ℝ) = x⁻¹ := Real.rpow_neg_one
  refine ⟨?_, ?_, ?_, ?_, ?_, ?_⟩
  · refine Eq.trans ?_ (R (.add (.leaf 0) (.const f))).symm
    exact J2.ext' rfl (add_zero _).symm (add_zero _).symm
  · refine Eq.trans ?_ (R (.sub (.leaf 0) (.const f))).symm
    exact J2.ext' rfl (sub_zero _).symm (sub_zero _).symm
  · refine ((chain_dirJet (Dual2.neg_shape_spec d hd (f - d.real)) α β v w).trans ?_).trans
      (R (.sub (.const f) (.leaf 0))).symm
    apply J2.ext' <;> simp [evalJ2, dirJet_v0]
  · refine ((chain_dirJet (Dual2.scaleL_spec d hd (d.real * f) f) α β v w).trans ?_).trans
      (R (.mul (.leaf 0) (.const f))).symm
    apply J2.ext' <;> simp [evalJ2, mulJ2, dirJet_v0] <;> ring
  · refine ((chain_dirJet (Dual2.scaleL_spec d hd (d.real / f) (1 / f)) α β v w).trans ?_).trans
      (R (.div (.leaf 0) (.const f))).symm
    apply J2.ext' <;> simp [evalJ2, mulJ2, powJ2, dirJet_v0, e1, div_eq_mul_inv] <;> ring
  · refine ((chain_dirJet (Dual2.chain_shape_spec d hd (f / d.real) (-f / (d.real * d.real))
      (f / (d.real * d.real * d.real))) α β v w).trans ?_).trans (R (.div (.const f) (.leaf 0))).symm
    apply J2.ext' <;> simp only [evalJ2, mulJ2, powJ2, dirJet_v0, rpow_neg_two, rpow_neg_three, e1] <;> ring

/-- a power with base exactly 0 is inside the domain of the theorems wherever `x^p` is twice differentiable
there — `p ≥ 2` and the polynomials `x¹`, `x⁰`, where the code (after the repair in known_findings.json)
does not return `0 · ∞` -/
example : Dom2 (.powc (.leaf 0) 1) (fun _ => (0 : ℝ)) ∧ Dom2 (.powc (.leaf 0) 0) (fun _ => (0 : ℝ)) ∧
    Dom2 (.powc (.leaf 0) 3) (fun _ => (0 : ℝ)) := by
  refine ⟨?_, ?_, ?_⟩ <;> simp only [Dom2, evalR, true_and] <;> norm_num

end Rateslib
