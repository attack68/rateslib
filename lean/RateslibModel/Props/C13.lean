/-
C13  The linear solver returns the true solution together with its derivatives.

`dsolve21` is the model of `dsolve21_` (forward elimination with partial pivoting, explicit zeroing,
back substitution).  The soundness theorem is proved over any commutative ring with a division
operation: all it needs is that every pivot `p` actually divided by satisfies `x / p * p = x`.
  * In a field that is `p ≠ 0` (`C13_sound_field`); the solution is then also the only one
    (`C13_complete`).
  * Over an ordered field (ℝ) with the code's magnitude comparison, a system with exactly one solution
    never meets a zero pivot, so the solver returns that solution (`C13_nonsingular`): if the current
    column were zero from the diagonal down, the partially eliminated matrix would have a kernel vector.
  * In the ring of dual numbers `ℝ[ε]/(ε²)` (value, derivative), `Mathlib`'s `TrivSqZeroExt ℝ ℝ`, `Good` is
    "the value of the pivot is non-zero" (`C13_sound_dual_numbers`).
  * List-level numbers, dual-number matrix (`C13_dual_matrix_refines`, `C13_dual_matrix`;
    Proofs/LinHom.lean): the generic solver commutes with every homomorphism of its arithmetic, pivot
    choices included; the (value, sensitivity-to-`v`) projection of list-level first-order numbers is one
    (any layouts, any variable tagging), so the list-level answer projects onto the ring-level answer, and
    `A x = b` holds in value and in the first derivative w.r.t. every variable name carried by `A` or `b`,
    as soon as the value system is regular.
  * Second order (`C13_dual2_matrix_refines`, `C13_dual2_matrix`; Proofs/Jet2Ring.lean): the same with the
    directional 2-jets `ℝ[ε]/(ε³)` along every direction `α·e_v + β·e_w`: `A x = b` holds as an identity of
    2-jets, i.e. in value, all first and all second derivatives.
  * Float matrix, dual right-hand side (`C13_dual_rhs`, `C13_dual2_rhs`, the code path of `fdsolve`): values
    and sensitivities of the answer are the answers for the values and sensitivities of the data (the
    solver is linear in the right-hand side; Proofs/FLinear.lean).
  * Least squares (`C13_lsq`, `C13_lsq_refines`): normal equations, and the same refinement.
-/
import RateslibModel.Proofs.GaussPivot
import RateslibModel.Proofs.Jet2Ring
import RateslibModel.Proofs.FLinearInst
namespace Rateslib
open Finset

section Ring
variable {R : Type} [CommRing R] [Div R] (ge : R → R → Bool)

/-- Soundness over any commutative ring with division: if every pivot met can be divided by, the
returned vector satisfies `A x = b` (row by row), whatever the pivot-comparison function is. -/
theorem C13_sound (n : Nat) (s : Sys R) (hp : PivotsGood ge n (List.range n) s) :
    ∀ r, r < n → ∑ c ∈ range n, s.a r c * (@dsolve21 R (ringLinOps ge) n s) c = s.b r :=
  dsolve21_sound ge n s hp

/-- With least squares allowed the same holds for the normal equations `(AᵀA) x = Aᵀ b`. -/
theorem C13_lsq (rows n : Nat) (s : Sys R)
    (hp : PivotsGood ge n (List.range n)
      ⟨fun i j => @dotOver R (ringLinOps ge) (List.range rows) (fun r => s.a r i) (fun r => s.a r j),
       fun i => @dotOver R (ringLinOps ge) (List.range rows) (fun r => s.a r i) s.b⟩) :
    ∀ i, i < n →
      ∑ j ∈ range n, (∑ r ∈ range rows, s.a r i * s.a r j) * (@dsolve R (ringLinOps ge) rows n s true) j
        = ∑ r ∈ range rows, s.a r i * s.b r := by
  intro i hi
  have h := dsolve21_sound ge n _ hp i hi
  simpa only [rowDot, dotOver_range, dsolve, if_true] using h

/-- Row order of the system does not change the solution set; hence, when the solution is unique, it
does not change the answer. -/
theorem C13_row_order_irrelevant (n : Nat) (s : Sys R) (σ : Nat → Nat)
    (hσ : ∀ r, r < n → σ r < n) (hsurj : ∀ r, r < n → ∃ r', r' < n ∧ σ r' = r)
    (huniq : ∀ x y : Nat → R, Sol n s x → Sol n s y → ∀ c, c < n → x c = y c)
    (hp1 : PivotsGood ge n (List.range n) s)
    (hp2 : PivotsGood ge n (List.range n) ⟨fun r => s.a (σ r), fun r => s.b (σ r)⟩) :
    ∀ c, c < n → (@dsolve21 R (ringLinOps ge) n ⟨fun r => s.a (σ r), fun r => s.b (σ r)⟩) c
      = (@dsolve21 R (ringLinOps ge) n s) c := by
  have h1 := dsolve21_sound ge n s hp1
  have h2 := dsolve21_sound ge n _ hp2
  apply huniq _ _ ?_ h1
  intro r hr
  obtain ⟨r', hr', rfl⟩ := hsurj r hr
  exact h2 r' hr'

end Ring

/-- In a field every non-zero pivot can be divided by. -/
theorem C13_good_field {K : Type} [Field K] (p : K) (hp : p ≠ 0) : Good p :=
  good_of_ne hp

theorem C13_sound_field {K : Type} [Field K] (ge : K → K → Bool) (n : Nat) (s : Sys K)
    (hp : PivotsGood ge n (List.range n) s) :
    ∀ r, r < n → ∑ c ∈ range n, s.a r c * (@dsolve21 K (ringLinOps ge) n s) c = s.b r :=
  C13_sound ge n s hp

/-- Non-singular systems: over an ordered field, with the code's pivot rule (largest magnitude in the
column from the diagonal down), a system that has exactly one solution never divides by zero, and the
value returned is that solution. -/
theorem C13_nonsingular {K : Type} [Field K] [LinearOrder K] [IsStrictOrderedRing K] (n : Nat) (s : Sys K)
    (hex : ∃ x0, Sol n s x0) (huniq : ∀ x y, Sol n s x → Sol n s y → ∀ c, c < n → x c = y c) :
    PivotsGood absGeK n (List.range n) s ∧
    (∀ r, r < n → ∑ c ∈ range n, s.a r c * (@dsolve21 K (ringLinOps absGeK) n s) c = s.b r) ∧
    (∀ x, Sol n s x → ∀ c, c < n → x c = (@dsolve21 K (ringLinOps absGeK) n s) c) := by
  have hp := pivotsGood_of_exists_unique n s hex huniq
  have hs := dsolve21_sound absGeK n s hp
  exact ⟨hp, hs, fun x hx c hc => huniq x _ hx hs c hc⟩

/-- at `K = ℝ` the comparison of the theorem is the comparison the model's scalar instance uses -/
theorem C13_absGe_real (x y : ℝ) : @LinOps.absGe ℝ linOpsScalar x y = absGeK x y :=
  congrFun (congrFun geR_eq_absGeK x) y

/-- a dual number whose value is non-zero can be divided by (division as the code performs it:
multiplication by the reciprocal, `tszDiv` of Proofs/LinHom.lean) -/
theorem C13_good_dual_number (p : TrivSqZeroExt ℝ ℝ) (hp : p.fst ≠ 0) : Good p := good_tsz p hp

/-- `A x = b` holds in the ring of dual numbers — i.e. in value and in first derivative along any
direction — whenever the pivots' values are non-zero. -/
theorem C13_sound_dual_numbers (ge : TrivSqZeroExt ℝ ℝ → TrivSqZeroExt ℝ ℝ → Bool) (n : Nat)
    (s : Sys (TrivSqZeroExt ℝ ℝ)) (hp : PivotsGood ge n (List.range n) s) :
    ∀ r, r < n → ∑ c ∈ range n, s.a r c * (@dsolve21 _ (ringLinOps ge) n s) c = s.b r :=
  C13_sound ge n s hp

open Rateslib.Dual in
/-- Float matrix, first-order dual-number right-hand side (any layouts): the list-level solver's answer
is well-formed; its values are the solver's answer for the values of the data, and its sensitivity to
every variable name `v` is the solver's answer for the data's sensitivities to `v`.  With `C13_nonsingular`
both are the true solutions, i.e. `A x = b` holds in value and in every first derivative carried by `b`. -/
theorem C13_dual_rhs (n : Nat) (a : Nat → Nat → ℝ) (b : Nat → Dual ℝ) (hb : ∀ i, (b i).WF)
    (v : String) (r : Nat) :
    (fdsolve21 (α := ℝ) n ⟨a, b⟩ r).WF ∧
    (fdsolve21 (α := ℝ) n ⟨a, b⟩ r).real = fdsolve21 (α := ℝ) (σ := ℝ) n ⟨a, fun i => (b i).real⟩ r ∧
    den (fdsolve21 (α := ℝ) n ⟨a, b⟩ r) v = fdsolve21 (α := ℝ) (σ := ℝ) n ⟨a, fun i => den (b i) v⟩ r :=
  have h1 := fdsolve21_map (K := ℝ) real_modHom n a b hb r
  ⟨h1.1, h1.2, (fdsolve21_map (K := ℝ) (den_modHom v) n a b hb r).2⟩

section DualMatrix
open Rateslib.Dual Expr

/-- the comparison of the theorems below is the one the model's own float instance uses, and it is the
magnitude comparison of `C13_nonsingular` -/
theorem C13_geR (x y : ℝ) : @LinOps.absGe ℝ linOpsScalar x y = geR x y ∧ geR x y = absGeK x y :=
  ⟨rfl, C13_absGe_real x y⟩

/-- Completeness (any field): if the elimination meets no zero pivot, every solution of the system is the
returned one. -/
theorem C13_complete {K : Type} [Field K] (ge : K → K → Bool) (n : Nat) (s : Sys K)
    (hp : PivotsGood ge n (List.range n) s) (x : Nat → K) (hx : Sol n s x) :
    ∀ c, c < n → x c = @dsolve21 K (ringLinOps ge) n s c :=
  dsolve21_unique ge n s hp x hx

/-- Dual-number matrix and right-hand side, list level, any layouts: for every variable name `v`, the
(value, sensitivity-to-`v`) pairs of the list-level solver's answer are the answer of the same elimination
(same pivot choices) run in the ring of dual numbers on the (value, sensitivity) pairs of the data. -/
theorem C13_dual_matrix_refines (v : String) (n : Nat) (s : Sys (Dual ℝ))
    (ha : ∀ r c, (s.a r c).WF) (hb : ∀ r, (s.b r).WF) (r : Nat) :
    (@dsolve21 (Dual ℝ) linOpsDual n s r).WF ∧
    jetT v (@dsolve21 (Dual ℝ) linOpsDual n s r)
      = @dsolve21 (TrivSqZeroExt ℝ ℝ) linOpsT n
          ⟨fun r c => jetT v (s.a r c), fun r => jetT v (s.b r)⟩ r :=
  @dsolve21_hom _ _ linOpsDual linOpsT _ _ (jetT_linHom v) n s _ (srel_map ha hb) r

/-- … hence, if the elimination on the values meets no zero pivot (a uniquely solvable value system,
`C13_nonsingular`), `A x = b` holds in value and in the first derivative with respect to every variable
name carried by `A` or `b`. -/
theorem C13_dual_matrix (v : String) (n : Nat) (s : Sys (Dual ℝ))
    (ha : ∀ r c, (s.a r c).WF) (hb : ∀ r, (s.b r).WF)
    (hp : PivotsGood geR n (List.range n) ⟨fun r c => (s.a r c).real, fun r => (s.b r).real⟩) :
    ∀ r, r < n →
      (∑ c ∈ range n, (s.a r c).real * (@dsolve21 (Dual ℝ) linOpsDual n s c).real = (s.b r).real) ∧
      (∑ c ∈ range n, ((s.a r c).real * den (@dsolve21 (Dual ℝ) linOpsDual n s c) v
          + den (s.a r c) v * (@dsolve21 (Dual ℝ) linOpsDual n s c).real) = den (s.b r) v) := by
  intro r hr
  have hrel : SRel TrivSqZeroExt.fst (fun _ => True)
      ⟨fun r c => jetT v (s.a r c), fun r => jetT v (s.b r)⟩
      ⟨fun r c => (s.a r c).real, fun r => (s.b r).real⟩ :=
    ⟨fun r c => ⟨trivial, jetT_fst v _⟩, fun r => ⟨trivial, jetT_fst v _⟩⟩
  have hpJ := pivotsGood_of_values n _ _ _ hrel hp
  have hsound : ∑ c ∈ range n, jetT v (s.a r c) * jetT v (@dsolve21 (Dual ℝ) linOpsDual n s c)
      = jetT v (s.b r) :=
    @hom_solution _ _ _ geT _ linOpsDual _ _ (jetT_linHom v) n s _ (srel_map ha hb) hpJ r hr
  constructor
  · have := congrArg TrivSqZeroExt.fst hsound
    rw [TrivSqZeroExt.fst_sum] at this
    simpa using this
  · have := congrArg TrivSqZeroExt.snd hsound
    rw [TrivSqZeroExt.snd_sum] at this
    simp only [TrivSqZeroExt.snd_mul, jetT_fst, jetT_snd, smul_eq_mul, MulOpposite.smul_eq_mul_unop,
      MulOpposite.unop_op] at this
    rw [← this]

/-- Second order: along every direction `α·e_v + β·e_w` the 2-jets of the list-level answer are the answer
of the same elimination in the ring of 2-jets `ℝ[ε]/(ε³)`. -/
theorem C13_dual2_matrix_refines (α β : ℝ) (v w : String) (n : Nat) (s : Sys (Dual2 ℝ))
    (ha : ∀ r c, (s.a r c).WF) (hb : ∀ r, (s.b r).WF) (r : Nat) :
    (@dsolve21 (Dual2 ℝ) linOpsDual2 n s r).WF ∧
    dirJet α β v w (@dsolve21 (Dual2 ℝ) linOpsDual2 n s r)
      = @dsolve21 J2 linOpsJ n
          ⟨fun r c => dirJet α β v w (s.a r c), fun r => dirJet α β v w (s.b r)⟩ r :=
  @dsolve21_hom _ _ linOpsDual2 linOpsJ _ _ (dirJet_linHom α β v w) n s _ (srel_map ha hb) r

/-- … hence, for a regular value system, `A x = b` as an identity of 2-jets along every direction: in
value, in every first and in every second derivative carried by `A` or `b`. -/
theorem C13_dual2_matrix (α β : ℝ) (v w : String) (n : Nat) (s : Sys (Dual2 ℝ))
    (ha : ∀ r c, (s.a r c).WF) (hb : ∀ r, (s.b r).WF)
    (hp : PivotsGood geR n (List.range n) ⟨fun r c => (s.a r c).real, fun r => (s.b r).real⟩) :
    ∀ r, r < n →
      ∑ c ∈ range n, dirJet α β v w (s.a r c) * dirJet α β v w (@dsolve21 (Dual2 ℝ) linOpsDual2 n s c)
        = dirJet α β v w (s.b r) := by
  have hv : SRel J2.v0 (fun _ => True)
      ⟨fun r c => dirJet α β v w (s.a r c), fun r => dirJet α β v w (s.b r)⟩
      ⟨fun r c => (s.a r c).real, fun r => (s.b r).real⟩ :=
    ⟨fun r c => ⟨trivial, rfl⟩, fun r => ⟨trivial, rfl⟩⟩
  exact @hom_solution _ _ _ geJ _ linOpsDual2 _ _ (dirJet_linHom α β v w) n s _ (srel_map ha hb)
    (pivotsGood_of_hom geJ geR v0_linHom (fun p hp => J2.good p (ne_zero_of_good_real hp)) n _ _ _ hv hp)

/-- Least squares: the normal-equations branch refines in the same way (first order shown). -/
theorem C13_lsq_refines (v : String) (rows n : Nat) (s : Sys (Dual ℝ))
    (ha : ∀ r c, (s.a r c).WF) (hb : ∀ r, (s.b r).WF) (lsq : Bool) (r : Nat) :
    (@dsolve (Dual ℝ) linOpsDual rows n s lsq r).WF ∧
    jetT v (@dsolve (Dual ℝ) linOpsDual rows n s lsq r)
      = @dsolve (TrivSqZeroExt ℝ ℝ) linOpsT rows n
          ⟨fun r c => jetT v (s.a r c), fun r => jetT v (s.b r)⟩ lsq r :=
  @dsolve_hom _ _ linOpsDual linOpsT _ _ (jetT_linHom v) rows n s _ (srel_map ha hb) lsq r

/-- Float matrix, second-order right-hand side: values, first-order and (half) second-order sensitivities
of the answer are the answers for the corresponding projections of the data. -/
theorem C13_dual2_rhs (n : Nat) (a : Nat → Nat → ℝ) (b : Nat → Dual2 ℝ) (hb : ∀ i, (b i).WF)
    (v w : String) (r : Nat) :
    (fdsolve21 (α := ℝ) n ⟨a, b⟩ r).WF ∧
    (fdsolve21 (α := ℝ) n ⟨a, b⟩ r).real = fdsolve21 (α := ℝ) (σ := ℝ) n ⟨a, fun i => (b i).real⟩ r ∧
    Dual2.den (fdsolve21 (α := ℝ) n ⟨a, b⟩ r) v
      = fdsolve21 (α := ℝ) (σ := ℝ) n ⟨a, fun i => Dual2.den (b i) v⟩ r ∧
    Dual2.den2 (fdsolve21 (α := ℝ) n ⟨a, b⟩ r) v w
      = fdsolve21 (α := ℝ) (σ := ℝ) n ⟨a, fun i => Dual2.den2 (b i) v w⟩ r :=
  have h1 := fdsolve21_map (K := ℝ) real_modHom2 n a b hb r
  ⟨h1.1, h1.2, (fdsolve21_map (K := ℝ) (den_modHom2 v) n a b hb r).2,
    (fdsolve21_map (K := ℝ) (den2_modHom v w) n a b hb r).2⟩

end DualMatrix

/-! Non-vacuity: a 2×2 rational system whose first pivot needs a row swap (0x + 2y = 2, 4x + y = 9). -/
def exSys : Sys ℚ :=
  ⟨fun r c => if r = 0 then (if c = 0 then 0 else 2) else (if c = 0 then 4 else 1), fun r => if r = 0 then 2 else 9⟩
example : (@dsolve21 ℚ (ringLinOps fun x y => decide (|x| ≥ |y|)) 2 exSys 0,
           @dsolve21 ℚ (ringLinOps fun x y => decide (|x| ≥ |y|)) 2 exSys 1) = (2, 1) := by decide +kernel
example : Good (4 : ℚ) := C13_good_field 4 (by norm_num)

end Rateslib
