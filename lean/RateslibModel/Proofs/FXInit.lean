/-
Counting populated pairs (`edgeCount` as a `countP` over the flat list of index pairs) and the seed
`initArr`: which pairs it populates, symmetry, consistency, and the seeded triangulation as a whole.
-/
import RateslibModel.Proofs.FXFill
namespace Rateslib

theorem countP_lt_countP {α : Type} (l : List α) (p q : α → Bool)
    (h : ∀ x ∈ l, p x = true → q x = true) (x0 : α) (hx0 : x0 ∈ l) (hp0 : p x0 = false)
    (hq0 : q x0 = true) : l.countP p < l.countP q := by
  have e : l.filter p = (l.filter q).filter p := by
    rw [List.filter_filter]
    exact List.filter_congr fun x hx => by have := h x hx; cases hp : p x <;> simp_all
  rw [List.countP_eq_length_filter, List.countP_eq_length_filter, e]
  exact List.length_filter_lt_length_iff_exists.2 ⟨x0, List.mem_filter.2 ⟨hx0, hq0⟩, by simp [hp0]⟩

/-- all index pairs below `n`, row by row -/
def pairsN (n : Nat) : List (Nat × Nat) :=
  (List.range n).flatMap fun i => (List.range n).map fun j => (i, j)

theorem mem_pairsN (n : Nat) (p : Nat × Nat) : p ∈ pairsN n ↔ p.1 < n ∧ p.2 < n := by
  obtain ⟨i, j⟩ := p
  simp [pairsN]

theorem length_pairsN (n : Nat) : (pairsN n).length = n * n := by
  simp [pairsN, List.length_flatMap]

theorem edgeCount_eq (n : Nat) (e : Nat → Nat → Bool) :
    edgeCount n e = (pairsN n).countP fun p => e p.1 p.2 := by
  rw [edgeCount, pairsN, List.countP_flatMap]
  simp only [Function.comp_def, List.countP_map, ← List.countP_eq_length_filter]

theorem edgeCount_le (n : Nat) (e : Nat → Nat → Bool) : edgeCount n e ≤ n * n := by
  rw [edgeCount_eq, ← length_pairsN]
  exact List.countP_le_length

theorem edgeCount_eq_iff (n : Nat) (e : Nat → Nat → Bool) :
    edgeCount n e = n * n ↔ ∀ i j, i < n → j < n → e i j = true := by
  rw [edgeCount_eq, ← length_pairsN, List.countP_eq_length]
  exact ⟨fun h i j hi hj => h (i, j) ((mem_pairsN n _).2 ⟨hi, hj⟩),
    fun h p hp => h p.1 p.2 ((mem_pairsN n p).1 hp).1 ((mem_pairsN n p).1 hp).2⟩

theorem edgeCount_strict (n : Nat) (e e' : Nat → Nat → Bool)
    (hm : ∀ i j, e i j = true → e' i j = true)
    (i0 j0 : Nat) (hi : i0 < n) (hj : j0 < n) (h0 : e i0 j0 = false) (h1 : e' i0 j0 = true) :
    edgeCount n e < edgeCount n e' := by
  rw [edgeCount_eq, edgeCount_eq]
  exact countP_lt_countP _ _ _ (fun p _ => hm p.1 p.2) (i0, j0) ((mem_pairsN n _).2 ⟨hi, hj⟩) h0 h1

variable {τ : Type} [FxOps τ]

/-- the seed's populated pairs: the diagonal and every quoted pair, both ways round -/
theorem init_edges (pairs : List (Nat × Nat × τ)) (zero : τ) (i j : Nat) :
    (initArr pairs zero).edges i j = true ↔
      i = j ∨ ∃ p ∈ pairs, (i = p.1 ∧ j = p.2.1) ∨ (i = p.2.1 ∧ j = p.1) := by
  rw [initArr_eq, show (i = j) = ((seed0 zero).edges i j = true) by simp [seed0]]
  exact foldl_write_edges (fun p => (p.1, p.2.1)) (fun _ p => p.2.2) i j pairs _

theorem init_symm (pairs : List (Nat × Nat × τ)) (zero : τ) : SymmEdges (initArr pairs zero) := by
  rw [initArr_eq]
  exact List.foldlRecOn _ _ (fun i j => by simp only [seed0, eq_comm])
    fun acc h p _ => writePair_symm acc _ _ _ h

variable {R : Nat → Nat → τ → Prop}

theorem init_consistentR (H : FxRel R) (pairs : List (Nat × Nat × τ)) (zero : τ)
    (hp : ∀ p ∈ pairs, R p.1 p.2.1 p.2.2) : ConsistentR R (initArr pairs zero) := by
  rw [initArr_eq]
  refine foldl_write_consistentR H (fun p => (p.1, p.2.1)) (fun _ p => p.2.2) pairs _ ?_
    fun p hpm _ _ _ => hp p hpm
  intro i j hij
  obtain rfl : i = j := by simpa [seed0] using hij
  simp only [seed0, if_true]
  exact H.one i

/-- seeded and triangulated: every one of the `n × n` entries is populated and satisfies the relation -/
theorem fill_init_rel (H : FxRel R) (n fuel : Nat) (pairs : List (Nat × Nat × τ)) (zero : τ)
    (hp : ∀ p ∈ pairs, R p.1 p.2.1 p.2.2) (a' : FxArr τ)
    (h : fill n fuel (initArr pairs zero) [] = some a') :
    ∀ i j, i < n → j < n → a'.edges i j = true ∧ R i j (a'.fx i j) := by
  obtain ⟨hc, hfull⟩ := fill_consistentR H n fuel _ a' [] (init_consistentR H pairs zero hp)
    (init_symm pairs zero) h
  intro i j hi hj
  have he := (edgeCount_eq_iff n a'.edges).1 hfull i j hi hj
  exact ⟨he, hc i j he⟩

theorem initArr_map {σ : Type} [FxOps σ] (h : τ → σ) (hh : FxHom h)
    (hone : h FxOps.one = FxOps.one) (pairs : List (Nat × Nat × τ)) (zero : τ) :
    (initArr pairs zero).map h = initArr (pairs.map (fun p => (p.1, p.2.1, h p.2.2))) (h zero) := by
  have h0 : seed0 (h zero) = (seed0 zero).map h := by
    simp only [seed0, FxArr.map, apply_ite h, hone]
  rw [initArr_eq, initArr_eq, List.foldl_map, h0]
  exact (List.foldl_hom (FxArr.map h)
    fun acc p => (writePair_map h hh acc p.1 p.2.1 p.2.2).symm).symm

end Rateslib
