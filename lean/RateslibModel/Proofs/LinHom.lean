/-
The generic solver commutes with every homomorphism of its arithmetic, pivot choices included
(`dsolve21_hom`, `dsolve_hom`); into a ring, good pivots and solutions transfer along it (`pivotsGood_of_hom`,
`hom_solution`).  The (value, sensitivity-to-`v`) projection `jetT v` of list-level first-order numbers is
such a homomorphism into the dual numbers ℝ[ε]/(ε²), so the list-level solver on a dual-number matrix
refines the ring-level one and, for a regular value system, solves `A x = b` in value and derivative.
-/
import RateslibModel.Model.Linalg
import RateslibModel.Proofs.RealSolver
import RateslibModel.Analysis.Refine
import RateslibModel.Proofs.Gauss
import RateslibModel.Proofs.Basic
import Mathlib.Algebra.TrivSqZeroExt.Basic
import Mathlib.Data.Real.Basic
namespace Rateslib

/-- a map between two element types of the generic solver that respects its arithmetic and its pivot
comparison, on a set `G` of well-formed elements closed under the arithmetic -/
structure LinHom {τ ρ : Type} [LinOps τ] [LinOps ρ] (φ : τ → ρ) (G : τ → Prop) : Prop where
  zero : G (LinOps.zero) ∧ φ LinOps.zero = LinOps.zero
  add : ∀ a b, G a → G b → G (LinOps.add a b) ∧ φ (LinOps.add a b) = LinOps.add (φ a) (φ b)
  sub : ∀ a b, G a → G b → G (LinOps.sub a b) ∧ φ (LinOps.sub a b) = LinOps.sub (φ a) (φ b)
  mul : ∀ a b, G a → G b → G (LinOps.mul a b) ∧ φ (LinOps.mul a b) = LinOps.mul (φ a) (φ b)
  div : ∀ a b, G a → G b → G (LinOps.div a b) ∧ φ (LinOps.div a b) = LinOps.div (φ a) (φ b)
  absGe : ∀ a b, G a → G b → LinOps.absGe a b = LinOps.absGe (φ a) (φ b)

section
variable {τ ρ : Type} [LinOps τ] [LinOps ρ] (φ : τ → ρ) (G : τ → Prop)

/-- matrices and right-hand sides related entry by entry -/
def SRel (s : Sys τ) (s' : Sys ρ) : Prop :=
  (∀ r c, G (s.a r c) ∧ φ (s.a r c) = s'.a r c) ∧ ∀ r, G (s.b r) ∧ φ (s.b r) = s'.b r

variable {φ G}

omit [LinOps τ] [LinOps ρ] in
/-- how `SRel` is entered: a system of well-formed entries is related to its entrywise image -/
theorem srel_map {s : Sys τ} (ha : ∀ r c, G (s.a r c)) (hb : ∀ r, G (s.b r)) :
    SRel φ G s ⟨fun r c => φ (s.a r c), fun r => φ (s.b r)⟩ :=
  ⟨fun r c => ⟨ha r c, rfl⟩, fun r => ⟨hb r, rfl⟩⟩

theorem pivotIdx_hom (H : LinHom φ G) (n j : Nat) (a : Nat → Nat → τ) (a' : Nat → Nat → ρ)
    (h : ∀ r c, G (a r c) ∧ φ (a r c) = a' r c) : pivotIdx n j a = pivotIdx n j a' := by
  unfold pivotIdx
  congr 1
  funext best r
  rw [H.absGe _ _ (h r j).1 (h best j).1, (h r j).2, (h best j).2]

theorem srel_swap (s : Sys τ) (s' : Sys ρ) (h : SRel φ G s s') (j k : Nat) :
    SRel φ G (swapRows s j k) (swapRows s' j k) := by
  refine ⟨fun r c => ?_, fun r => ?_⟩
  · rw [(swapRows_row s j k r).1, (swapRows_row s' j k r).1]; exact h.1 _ c
  · rw [(swapRows_row s j k r).2, (swapRows_row s' j k r).2]; exact h.2 _

theorem srel_elimRow (H : LinHom φ G) (n j : Nat) (s : Sys τ) (s' : Sys ρ) (h : SRel φ G s s') (l : Nat) :
    SRel φ G (elimRow n j s l) (elimRow n j s' l) := by
  have hscl := hom_lift₂ H.div (h.1 l j) (h.1 j j)
  refine ⟨fun r c => ?_, fun r => ?_⟩ <;> simp only [elimRow]
  · split
    · split
      · exact H.zero
      · split
        · exact hom_lift₂ H.sub (h.1 l c) (hom_lift₂ H.mul hscl (h.1 j c))
        · exact h.1 l c
    · exact h.1 r c
  · split
    · exact hom_lift₂ H.sub (h.2 l) (hom_lift₂ H.mul hscl (h.2 j))
    · exact h.2 r

/-- both systems swap the same rows -/
theorem srel_pivot (H : LinHom φ G) (n : Nat) (s : Sys τ) (s' : Sys ρ) (h : SRel φ G s s') (j : Nat) :
    SRel φ G (if j ≠ pivotIdx n j s.a then swapRows s j (pivotIdx n j s.a) else s)
      (if j ≠ pivotIdx n j s'.a then swapRows s' j (pivotIdx n j s'.a) else s') := by
  rw [pivotIdx_hom H n j s.a s'.a h.1]
  split
  · exact srel_swap s s' h _ _
  · exact h

theorem srel_elimStep (H : LinHom φ G) (n : Nat) (s : Sys τ) (s' : Sys ρ) (h : SRel φ G s s') (j : Nat) :
    SRel φ G (elimStep n s j) (elimStep n s' j) :=
  List.foldl_rel (srel_pivot H n s s' h j) fun l _ s s' h => srel_elimRow H n j s s' h l

theorem dot_hom (H : LinHom φ G) (f g : Nat → τ) (f' g' : Nat → ρ)
    (hf : ∀ i, G (f i) ∧ φ (f i) = f' i) (hg : ∀ i, G (g i) ∧ φ (g i) = g' i) (idx : List Nat) :
    G (dotOver idx f g) ∧ φ (dotOver idx f g) = dotOver idx f' g' :=
  List.foldl_rel (r := fun acc acc' => G acc ∧ φ acc = acc') H.zero
    fun m _ _ _ hacc => hom_lift₂ H.add hacc (hom_lift₂ H.mul (hf m) (hg m))

theorem srel_back (H : LinHom φ G) (n : Nat) (s : Sys τ) (s' : Sys ρ) (h : SRel φ G s s') :
    ∀ r, G (backSubst n s r) ∧ φ (backSubst n s r) = backSubst n s' r := by
  refine List.foldl_rel (r := fun (x : Nat → τ) (x' : Nat → ρ) => ∀ r, G (x r) ∧ φ (x r) = x' r)
    (fun _ => H.zero) ?_
  intro i _ x x' hx r
  split_ifs
  · exact hom_lift₂ H.div (hom_lift₂ H.sub (h.2 i) (dot_hom H _ _ _ _ (h.1 i) hx _)) (h.1 i i)
  · exact hx r

/-- The generic solver commutes with every homomorphism of its arithmetic, pivot choices included. -/
theorem dsolve21_hom (H : LinHom φ G) (n : Nat) (s : Sys τ) (s' : Sys ρ) (h : SRel φ G s s') :
    ∀ r, G (dsolve21 n s r) ∧ φ (dsolve21 n s r) = dsolve21 n s' r :=
  srel_back H n _ _ (List.foldl_rel h fun j _ s s' h => srel_elimStep H n s s' h j)

/-- So does `dsolve`, least-squares branch (normal equations) included. -/
theorem dsolve_hom (H : LinHom φ G) (rows n : Nat) (s : Sys τ) (s' : Sys ρ) (h : SRel φ G s s') (lsq : Bool) :
    ∀ r, G (dsolve rows n s lsq r) ∧ φ (dsolve rows n s lsq r) = dsolve rows n s' lsq r := by
  unfold dsolve
  cases lsq with
  | false => exact dsolve21_hom H n s s' h
  | true =>
    exact dsolve21_hom H n _ _
      ⟨fun i j => dot_hom H _ _ _ _ (fun r => h.1 r i) (fun r => h.1 r j) _,
       fun i => dot_hom H _ _ _ _ (fun r => h.1 r i) h.2 _⟩

end

section
variable {R R' : Type} [CommRing R] [Div R] [CommRing R'] [Div R']
variable (ge : R → R → Bool) (ge' : R' → R' → Bool)

/-- If a homomorphism `φ : R → R'` of the solver's arithmetic reflects `Good`, the elimination in `R` meets
no bad pivot as soon as the elimination of the image system in `R'` meets none. -/
theorem pivotsGood_of_hom {φ : R → R'} {G : R → Prop}
    (H : @LinHom R R' (ringLinOps ge) (ringLinOps ge') φ G) (hg : ∀ p, Good (φ p) → Good p) (n : Nat) :
    ∀ (js : List Nat) (s : Sys R) (s' : Sys R'),
      SRel φ G s s' → PivotsGood ge' n js s' → PivotsGood ge n js s := by
  intro js
  induction js with
  | nil => intro _ _ _ _; trivial
  | cons j js ih =>
    intro s s' h hp
    have hsw : SRel φ G (swapped ge n s j) (swapped ge' n s' j) :=
      @srel_pivot _ _ (ringLinOps ge) (ringLinOps ge') _ _ H n s s' h j
    refine ⟨hg _ ?_, ih _ _ (@srel_elimStep _ _ (ringLinOps ge) (ringLinOps ge') _ _ H n s s' h j) hp.2⟩
    rw [(hsw.1 j j).2]
    exact hp.1

/-- The image under a homomorphism into a ring of the solver's answer solves the image system, if the
elimination there meets no bad pivot. -/
theorem hom_solution {τ : Type} [LinOps τ] {φ : τ → R} {G : τ → Prop}
    (H : @LinHom τ R _ (ringLinOps ge) φ G) (n : Nat) (s : Sys τ) (s' : Sys R) (h : SRel φ G s s')
    (hp : PivotsGood ge n (List.range n) s') : Sol n s' fun c => φ (dsolve21 n s c) := by
  have e : (fun c => φ (dsolve21 n s c)) = @dsolve21 R (ringLinOps ge) n s' :=
    funext fun c => (@dsolve21_hom _ _ _ (ringLinOps ge) _ _ H n s s' h c).2
  rw [e]
  exact dsolve21_sound ge n s' hp

end

/-- division of dual numbers as the code performs it: multiplication by the reciprocal -/
noncomputable instance tszDiv : Div (TrivSqZeroExt ℝ ℝ) := ⟨fun x y => x * y⁻¹⟩

/-- the pivot comparison on dual numbers: by the magnitudes of the values -/
noncomputable def geT (x y : TrivSqZeroExt ℝ ℝ) : Bool := !(Transc.ltb (absS x.fst) (absS y.fst))

/-- the solver's arithmetic in the ring of dual numbers -/
@[reducible] noncomputable def linOpsT : LinOps (TrivSqZeroExt ℝ ℝ) := ringLinOps geT
attribute [local instance] linOpsT

open Rateslib.Dual

/-- the (value, sensitivity to `v`) pair of a list-level number -/
noncomputable def jetT (v : String) (d : Dual ℝ) : TrivSqZeroExt ℝ ℝ :=
  TrivSqZeroExt.inl d.real + TrivSqZeroExt.inr (den d v)

@[simp] theorem jetT_fst (v : String) (d : Dual ℝ) : (jetT v d).fst = d.real := by simp [jetT]
@[simp] theorem jetT_snd (v : String) (d : Dual ℝ) : (jetT v d).snd = den d v := by simp [jetT]

/-- `jetT v d` read off the pair `jetOf d v` -/
theorem jetT_of {v : String} {d : Dual ℝ} {p : ℝ × ℝ} {x : TrivSqZeroExt ℝ ℝ} (h : Expr.jetOf d v = p)
    (h1 : x.fst = p.1) (h2 : x.snd = p.2) : jetT v d = x :=
  TrivSqZeroExt.ext ((jetT_fst v d).trans ((congrArg Prod.fst h).trans h1.symm))
    ((jetT_snd v d).trans ((congrArg Prod.snd h).trans h2.symm))

theorem jetT_linHom (v : String) :
    @LinHom (Dual ℝ) (TrivSqZeroExt ℝ ℝ) linOpsDual linOpsT (jetT v) Dual.WF where
  zero := (Expr.const_jetOf 0 v).imp_right fun j => jetT_of (x := 0) j rfl rfl
  add a b ha hb := (Expr.add_jetOf a b ha hb v).imp_right fun j =>
    jetT_of (x := jetT v a + jetT v b) j (by simp) (by simp)
  sub a b ha hb := (Expr.sub_jetOf a b ha hb v).imp_right fun j =>
    jetT_of (x := jetT v a - jetT v b) j (by simp) (by simp)
  mul a b ha hb := (Expr.mul_jetOf a b ha hb v).imp_right fun j =>
    jetT_of (x := jetT v a * jetT v b) j (by simp) (by simp; ring)
  div a b ha hb := (Expr.div_jetOf a b ha hb v).imp_right fun j =>
    jetT_of (x := jetT v a * (jetT v b)⁻¹) j (by simp) (by simp; ring)
  absGe a b _ _ := by
    show (!(Transc.ltb (absS a.real) (absS b.real))) = geT (jetT v a) (jetT v b)
    rw [geT, jetT_fst, jetT_fst]

theorem fst_linHom :
    @LinHom (TrivSqZeroExt ℝ ℝ) ℝ linOpsT (ringLinOps geR) TrivSqZeroExt.fst (fun _ => True) where
  zero := ⟨trivial, rfl⟩
  add _ _ _ _ := ⟨trivial, rfl⟩
  sub _ _ _ _ := ⟨trivial, rfl⟩
  mul _ _ _ _ := ⟨trivial, rfl⟩
  div a b _ _ := ⟨trivial, (div_eq_mul_inv a.fst b.fst).symm⟩
  absGe _ _ _ _ := rfl

theorem good_tsz (p : TrivSqZeroExt ℝ ℝ) (hp : p.fst ≠ 0) : Good p := by
  intro x
  show x * p⁻¹ * p = x
  rw [mul_assoc, TrivSqZeroExt.inv_mul_cancel hp, mul_one]

theorem ne_zero_of_good_real {p : ℝ} (h : Good p) : p ≠ 0 := ne_zero_of_good h

/-- if the elimination on the values meets no zero pivot, every pivot of the elimination in the ring of
dual numbers can be divided by -/
theorem pivotsGood_of_values (n : Nat) : ∀ (js : List Nat) (s : Sys (TrivSqZeroExt ℝ ℝ)) (s' : Sys ℝ),
    SRel TrivSqZeroExt.fst (fun _ => True) s s' → PivotsGood geR n js s' → PivotsGood geT n js s :=
  pivotsGood_of_hom geT geR fst_linHom (fun p hp => good_tsz p (ne_zero_of_good_real hp)) n

end Rateslib
