/-
What the C16 document theorems (`Props/C16.lean`: the loader accepts every document `to_json` writes) rest on.
Every writer produces an object holding exactly the struct's fields, each once, so the derived visitor hands
each field to its loader (`fieldsOf_obj`); ndarray documents (`asArr1_nd1g`, `asArr2_nd2`); node maps under
distinct integer keys keep every node in document order (`lastPerKey_of_nodup`, `loadNodes_written`); the
invariants of stored numbers, calendars and quotes (`NumDoc.OK`, `CalDocOK`, `WQuote.OK`).
-/
import RateslibModel.Proofs.Load
import RateslibModel.Proofs.DualOps
namespace Rateslib
open Load

theorem filter_key_of_nodup {κ α : Type} [BEq κ] [LawfulBEq κ] : ∀ (l : List (κ × α)), (l.map (·.1)).Nodup →
    ∀ kv ∈ l, l.filter (fun x => x.1 == kv.1) = [kv] := by
  intro l
  induction l with
  | nil => intro _ kv h; cases h
  | cons a as ih =>
    intro hn kv hkv
    simp only [List.map_cons, List.nodup_cons] at hn
    rcases List.mem_cons.1 hkv with rfl | hin
    · have : as.filter (fun x => x.1 == kv.1) = [] := by
        rw [List.filter_eq_nil_iff]
        intro x hx hxe
        exact hn.1 (List.mem_map.2 ⟨x, hx, by simpa using hxe⟩)
      simp [this]
    · have hne : ¬ (a.1 == kv.1) = true := by
        intro he
        exact hn.1 (List.mem_map.2 ⟨kv, hin, by simpa using (beq_iff_eq.1 he).symm⟩)
      simp only [List.filter_cons, hne]
      exact ih hn.2 kv hin

/-- `kvs` is what every writer produces: exactly the struct's fields, each once, in declaration order -/
theorem fieldsOf_obj (names : List String) (kvs : List (String × JVal)) (hk : kvs.map (·.1) = names)
    (hn : names.Nodup) : fieldsOf names (.obj kvs) = some (kvs.map (fun kv => some kv.2)) := by
  subst hk
  rw [fieldsOf, mapM_eq_some_iff, List.map_map, List.map_map]
  refine List.map_congr_left fun kv hkv => ?_
  simp only [Function.comp, fieldOf, valuesOf, filter_key_of_nodup kvs hn kv hkv, List.map]

theorem unitEnumOf_str (names : List String) (s : String) (h : s ∈ names) :
    unitEnumOf names (.str s) = some s := by
  simp [unitEnumOf, h]

theorem nd1_eq (xs : List JNum) : nd1 xs = nd1g (xs.map .num) := by simp [nd1, nd1g]

theorem asArr1_nd1g {α : Type} (elem : JVal → Option α) (items : List JVal) (vals : List α)
    (h : items.mapM elem = some vals) (hsz : items.length < 2 ^ 64) :
    asArr1 elem (nd1g items) = some vals := by
  have h' : items.length < 18446744073709551616 := hsz
  have hl : vals.length = items.length := length_mapM_some elem items vals h
  simp [asArr1, nd1g, ndFields, valuesOf, versionOk, asU8, natNum, asVec, asUsize, h', h, hl]

@[simp] theorem mapM_num (xs : List JNum) : List.mapM (asF64 ∘ JVal.num) xs = some xs :=
  mapM_of_forall_id _ xs fun _ _ => rfl

@[simp] theorem mapM_str (xs : List String) : List.mapM (asStr ∘ JVal.str) xs = some xs :=
  mapM_of_forall_id _ xs fun _ _ => rfl

theorem asArr1_nd1 (xs : List JNum) (h : xs.length < 2 ^ 64) : asArr1 asF64 (nd1 xs) = some xs := by
  rw [nd1_eq]
  exact asArr1_nd1g asF64 _ xs (by simp) (by simpa using h)

theorem asArr2_nd2 (r c : Nat) (xs : List JNum) (hr : r < 2 ^ 64) (hc : c < 2 ^ 64) (hl : xs.length = r * c) :
    asArr2 asF64 (nd2 r c xs) = some (r, c) := by
  have hr' : r < 18446744073709551616 := hr
  have hc' : c < 18446744073709551616 := hc
  simp [asArr2, nd2, ndFields, valuesOf, versionOk, asU8, natNum, asVec, asUsize, hr', hc', hl]

def Load.NumDoc.OK : NumDoc → Prop
  | .f64 _ => True
  | .dual _ names d => names.Nodup ∧ d.length = names.length ∧ d.length < 2 ^ 64
  | .dual2 _ names d h => names.Nodup ∧ d.length = names.length ∧ h.length = names.length * names.length ∧
      d.length < 2 ^ 64

/-- a stored calendar: distinct holidays written in the library's datetime text, distinct weekday names -/
def CalDocOK (c : List String × List String) : Prop :=
  (∃ ds : List Int, c.1.map parseDateTime = ds.map some ∧ ds.Nodup) ∧
  (∃ ws : List Nat, c.2.map parseWeekday = ws.map some ∧ ws.Nodup)

theorem eraseDups_of_nodup {α : Type} [BEq α] [LawfulBEq α] : ∀ (l : List α), l.Nodup → l.eraseDups = l := by
  intro l
  induction l with
  | nil => intro _; rfl
  | cons a as ih =>
    intro h
    rw [List.nodup_cons] at h
    rw [List.eraseDups_cons]
    have hf : as.filter (fun b => !b == a) = as := by
      rw [List.filter_eq_self]
      intro b hb
      have : b ≠ a := fun e => h.1 (e ▸ hb)
      simp [this]
    rw [hf, ih h.2]

theorem writeSplineF64_eq (k : Nat) (t : List JNum) (c : Option (List JNum)) (n : Nat) :
    writeSplineF64 k t c n = writeSplineG k t (c.map (fun xs => xs.map .num)) n := by
  cases c <;> simp [writeSplineF64, writeSplineG, nd1_eq]

theorem lastPerKey_of_nodup {α : Type} (l : List (Int × α)) (h : (l.map (·.1)).Nodup) :
    lastPerKey l = l.map (·.2) := by
  unfold lastPerKey
  simp only
  rw [eraseDups_of_nodup _ h, List.filterMap_map]
  rw [show l.map (·.2) = l.filterMap (fun kv => some kv.2) by simp]
  apply List.filterMap_congr
  intro kv hkv
  simp only [Function.comp]
  rw [filter_key_of_nodup l h kv hkv]
  rfl

theorem lastPerKey_zip {α : Type} (ks : List Int) (vals : List α) (hd : ks.Nodup)
    (hl : ks.length = vals.length) : lastPerKey (ks.zip vals) = vals := by
  rw [lastPerKey_of_nodup, List.map_snd_zip (by omega)]
  rw [List.map_fst_zip (by omega)]
  exact hd

/-- a typed node map written under integer-literal keys: every node is read, with its key, in document
order -/
theorem asI64Map_written {α : Type} (elem : JVal → Option α) (keys : List String) (ks : List Int)
    (items : List JVal) (vals : List α)
    (hk : keys.map parseI64Key = ks.map some) (hv : items.mapM elem = some vals) :
    asI64Map elem (.obj (keys.zip items)) = some (ks.zip vals) := by
  rw [mapM_eq_some_iff] at hv
  -- both sides are one `zipWith` over the key list and the value list
  have h := List.zipWith_map (l₁ := keys) (l₂ := items) (g := parseI64Key) (h := elem)
    (f := fun a b => match a, b with | some k, some v => some (k, v) | _, _ => none)
  rw [hk, hv, List.zipWith_map] at h
  rw [asI64Map, mapM_eq_some_iff, List.zip_eq_zipWith, List.zip_eq_zipWith, List.map_zipWith, List.map_zipWith]
  exact h.symm

/-- each accepting arm of `loadNodes` is the left side for the variant's `elem` and `C`: under distinct keys the
last-per-key pass (IndexMap insertion) drops no node -/
theorem loadNodes_written {α β : Type} (elem : JVal → Option α) (C : List α → β) (keys : List String)
    (ks : List Int) (items : List JVal) (vals : List α) (hk : keys.map parseI64Key = ks.map some) (hd : ks.Nodup)
    (hv : items.mapM elem = some vals) (hl : items.length = keys.length) :
    (asI64Map elem (.obj (keys.zip items))).map (fun l => C (lastPerKey l)) = some (C vals) := by
  have h1 : ks.length = keys.length := by simpa using (congrArg List.length hk).symm
  have h2 := length_mapM_some elem items vals hv
  rw [asI64Map_written elem keys ks items vals hk hv, Option.map_some,
    lastPerKey_zip ks vals hd (by omega)]

theorem loadInterpolator_written (interp : String) (hi : interp ∈ interpolatorNames) :
    loadInterpolator (.obj [(interp, .obj [])]) = some interp := by
  simp [loadInterpolator, enumOf, hi, fieldsOf]

theorem writeCurveF64_eq (keys : List String) (vals : List JNum) (interp id conv modi : String)
    (base : Option JNum) (cal : String) :
    writeCurveF64 keys vals interp id conv modi base cal
      = writeCurveG (.obj [("F64", .obj (keys.zip (vals.map .num)))]) (.obj [("NamedCal", writeNamedCal cal)])
          interp id conv modi base := rfl

/-- the invariants of a stored quote: both names are stored (lower-cased, three-byte) names, distinct; the
settlement text is the date it stands for -/
def Load.WQuote.OK (q : WQuote) : Prop :=
  ccyTryNew q.lhs = some q.lhs ∧ ccyTryNew q.rhs = some q.rhs ∧ q.lhs ≠ q.rhs ∧ q.rate.OK ∧
  ∀ s d, q.settlement = some (s, d) → parseDateTime s = some d

theorem loadCcy_doc (c : String) (h : ccyTryNew c = some c) : loadCcy (ccyDoc c) = some c := by
  rw [loadCcy, ccyDoc, fieldsOf_obj _ _ (by rfl) (by decide)]
  simp [req, asStr, h]

end Rateslib
