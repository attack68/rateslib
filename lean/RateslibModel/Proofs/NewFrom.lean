/-
What `new_from` / `try_new_from` rest on: re-indexing (`toNewVars`) with the state that `vars_cmp` computes
when no storage is shared, and the shape of what `try_new` returns.
-/
import RateslibModel.Proofs.Dual2Layout
namespace Rateslib

section Cmp
variable {α : Type}

theorem varsCmp_false_ne_arcEq (a b : List String) : varsCmp false a b ≠ .arcEq := fun h => by
  have := varsCmp_spec false a b
  rw [h] at this
  cases this

theorem varsCmp_false_valEq (a b : List String) (h : varsCmp false a b = .valEq) : a = b := by
  have := varsCmp_spec false a b
  rwa [h] at this

variable [OfNat α 0]

/-- re-indexing with the state `vars_cmp` computes: name by name the derivative is kept for the names of the
new list and dropped (0) for the others; the result has exactly the new list. -/
theorem Dual.toNewVars_cmp (d : Dual α) (nv : List String) (hd : d.WF) (hn : nv.Nodup) :
    let r := d.toNewVars nv (varsCmp false d.vars nv)
    r.WF ∧ r.vars = nv ∧ r.real = d.real ∧ ∀ n, den r n = if n ∈ nv then den d n else 0 :=
  Dual.toNewVars_cmp_eq d nv hd ▸ ⟨ofFun_wf _ _ _ hn, rfl, rfl, den_ofFun _ _ _⟩

theorem Dual2.toNewVars_cmp (d : Dual2 α) (nv : List String) (hd : d.WF) (hn : nv.Nodup) :
    let r := d.toNewVars nv (varsCmp false d.vars nv)
    r.WF ∧ r.vars = nv ∧ r.real = d.real ∧ (∀ n, den r n = if n ∈ nv then den d n else 0) ∧
      ∀ n w, den2 r n w = if n ∈ nv ∧ w ∈ nv then den2 d n w else 0 :=
  Dual2.toNewVars_cmp_eq d nv hd ▸ ⟨ofFun_wf _ _ _ _ hn, rfl, rfl, den_ofFun _ _ _ _, den2_ofFun _ _ _ _⟩

end Cmp

section Constructors
variable {α : Type} [OfNat α 1]

theorem Dual.tryNew_wf (real : α) (vars : List String) (dual : List α) (d : Dual α)
    (h : Dual.tryNew real vars dual = some d) : d.WF ∧ d.real = real ∧ d.vars = dedup vars := by
  simp only [Dual.tryNew, Option.ite_none_left_eq_some, Option.some.injEq, bne_iff_ne, ne_eq, not_not] at h
  obtain ⟨hl, rfl⟩ := h
  exact ⟨⟨nodup_dedup vars, hl.symm⟩, rfl, rfl⟩

variable [OfNat α 0]

theorem Dual2.tryNew_wf (real : α) (vars : List String) (dual dual2 : List α) (d : Dual2 α)
    (h : Dual2.tryNew real vars dual dual2 = some d) : d.WF ∧ d.real = real ∧ d.vars = dedup vars := by
  simp only [Dual2.tryNew] at h
  generalize (if dual.isEmpty = true then onesV (dedup vars).length else dual) = dd at h
  simp only [Option.ite_none_left_eq_some, bne_iff_ne, ne_eq, not_not] at h
  obtain ⟨hl, h⟩ := h
  split_ifs at h with he hh <;> cases h
  · -- no Hessian given: the zero matrix
    exact ⟨⟨nodup_dedup vars, hl.symm, by simp [zerosM], by simp [zerosM, zerosV]⟩, rfl, rfl⟩
  · have S := reshape_shape (dedup vars).length dual2 (by simpa using hh)
    exact ⟨⟨nodup_dedup vars, hl.symm, S.1, S.2⟩, rfl, rfl⟩

end Constructors

end Rateslib
