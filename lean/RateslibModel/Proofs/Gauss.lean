/-
Gaussian elimination (`dsolve21`) over a commutative ring with a division operation.  A pivot `p` is `Good`
if `x / p * p = x` for all `x` (in a field: `p ≠ 0`; for dual numbers and jets: the value of `p` is
non-zero).  If every pivot met is good (`PivotsGood`), forward elimination keeps the solution set and ends
upper triangular with a good diagonal (`forwardElim_spec`); back substitution solves such a system, which
has no other solution.  Hence `A · (dsolve21 A b) = b` (`dsolve21_sound`), and every solution is the
returned one (`dsolve21_unique`).
-/
import RateslibModel.Model.Linalg
import Mathlib.Algebra.BigOperators.Ring.Finset
import Mathlib.Algebra.BigOperators.Intervals
import Mathlib.Tactic.Ring
namespace Rateslib
open Finset

section Generic
variable {τ : Type}

/-- `swapRows` permutes the rows by the transposition `(j k)` -/
theorem swapRows_row (s : Sys τ) (j k r : Nat) :
    (swapRows s j k).a r = s.a (Equiv.swap j k r) ∧ (swapRows s j k).b r = s.b (Equiv.swap j k r) := by
  simp only [swapRows, Equiv.swap_apply_def]
  split_ifs <;> exact ⟨rfl, rfl⟩

variable [LinOps τ]

theorem pivotIdx_bounds (n j : Nat) (a : Nat → Nat → τ) (hj : j < n) :
    j ≤ pivotIdx n j a ∧ pivotIdx n j a < n := by
  unfold pivotIdx
  refine List.foldlRecOn (motive := fun b => j ≤ b ∧ b < n) _ _ ⟨le_refl j, hj⟩ fun best hb r hr => ?_
  split
  · rw [List.mem_range'_1] at hr
    omega
  · exact hb

theorem elimRow_other (n j l : Nat) (s : Sys τ) (r : Nat) (hr : r ≠ l) :
    (elimRow n j s l).a r = s.a r ∧ (elimRow n j s l).b r = s.b r := by
  simp only [elimRow, if_neg hr, and_self]

end Generic

variable {R : Type} [CommRing R] [Div R]

/-- a pivot one can divide by -/
def Good (p : R) : Prop := ∀ x : R, x / p * p = x

theorem Good.mul_left_cancel {p x y : R} (h : Good p) (e : p * x = p * y) : x = y := by
  have := congrArg (1 / p * ·) e
  simpa only [← mul_assoc, h 1, one_mul] using this

theorem ne_zero_of_good [Nontrivial R] {p : R} (h : Good p) : p ≠ 0 := by
  intro h0
  have := h 1
  rw [h0, mul_zero] at this
  exact zero_ne_one this

/-- the solver's arithmetic over `R`, with an arbitrary pivot-comparison function -/
@[reducible] def ringLinOps (ge : R → R → Bool) : LinOps R :=
  ⟨(· + ·), (· - ·), (· * ·), (· / ·), 0, ge⟩

variable (ge : R → R → Bool)

theorem lo_add (a b : R) : @LinOps.add R (ringLinOps ge) a b = a + b := rfl
theorem lo_sub (a b : R) : @LinOps.sub R (ringLinOps ge) a b = a - b := rfl
theorem lo_mul (a b : R) : @LinOps.mul R (ringLinOps ge) a b = a * b := rfl
theorem lo_div (a b : R) : @LinOps.div R (ringLinOps ge) a b = a / b := rfl
theorem lo_zero : @LinOps.zero R (ringLinOps ge) = 0 := rfl

/-- row `r` of `A · x` -/
def rowDot (n : Nat) (a : Nat → Nat → R) (x : Nat → R) (r : Nat) : R := ∑ c ∈ range n, a r c * x c

def Sol (n : Nat) (s : Sys R) (x : Nat → R) : Prop := ∀ r, r < n → rowDot n s.a x r = s.b r

theorem dotOver_eq (idx : List Nat) (f g : Nat → R) :
    @dotOver R (ringLinOps ge) idx f g = (idx.map (fun m => f m * g m)).sum := by
  rw [List.sum_eq_foldl, List.foldl_map]
  rfl

theorem dotOver_range (k : Nat) (f g : Nat → R) :
    @dotOver R (ringLinOps ge) (List.range k) f g = ∑ r ∈ range k, f r * g r := by
  rw [dotOver_eq, ← List.sum_toFinset _ List.nodup_range, List.toFinset_range]

omit [Div R] in
/-- a row sum, split at column `k` -/
theorem rowDot_split (n : Nat) (a : Nat → Nat → R) (x : Nat → R) (r : Nat) {k : Nat} (hk : k < n) :
    rowDot n a x r = rowDot k a x r + (a r k * x k + ∑ c ∈ Ico (k + 1) n, a r c * x c) := by
  unfold rowDot
  rw [Finset.range_eq_Ico, ← Finset.sum_Ico_consecutive _ (Nat.zero_le k) hk.le,
    Finset.sum_eq_sum_Ico_succ_bot hk, Finset.range_eq_Ico]

omit [Div R] in
theorem rowDot_eq_zero (k : Nat) (a : Nat → Nat → R) (x : Nat → R) (r : Nat)
    (hz : ∀ c, c < k → a r c = 0) : rowDot k a x r = 0 :=
  Finset.sum_eq_zero fun c hc => by rw [hz c (Finset.mem_range.1 hc), zero_mul]

omit [Div R] in
theorem swap_sol (n : Nat) (s : Sys R) (j k : Nat) (hj : j < n) (hk : k < n) (x : Nat → R) :
    Sol n (swapRows s j k) x ↔ Sol n s x := by
  have lt : ∀ r, r < n → Equiv.swap j k r < n := fun r hr => by
    rw [Equiv.swap_apply_def]
    split_ifs <;> assumption
  have row : ∀ r, rowDot n (swapRows s j k).a x r = (swapRows s j k).b r ↔
      rowDot n s.a x (Equiv.swap j k r) = s.b (Equiv.swap j k r) := fun r => by
    unfold rowDot
    rw [(swapRows_row s j k r).1, (swapRows_row s j k r).2]
  constructor
  · intro h r hr
    have := (row _).1 (h _ (lt r hr))
    rwa [Equiv.swap_apply_self] at this
  · exact fun h r hr => (row r).2 (h _ (lt r hr))

/-- The reduction of row `l` is the row operation `row_l ← row_l − scl · row_j` on every column, although
the code leaves the columns before `j` alone and writes a zero into column `j`: both rows are already zero
before `j`, and the pivot can be divided by. -/
theorem elimRow_entries (n j l : Nat) (s : Sys R)
    (hz : ∀ c, c < j → s.a j c = 0 ∧ s.a l c = 0) (hg : Good (s.a j j)) (c : Nat) (hc : c < n) :
    (@elimRow R (ringLinOps ge) n j s l).a l c = s.a l c - (s.a l j / s.a j j) * s.a j c := by
  simp only [elimRow, lo_sub, lo_mul, lo_div, lo_zero, if_true]
  by_cases h1 : c = j
  · subst h1
    rw [if_pos rfl, hg (s.a l c)]
    ring
  · rw [if_neg h1]
    by_cases h2 : j < c
    · rw [if_pos ⟨h2, hc⟩]
    · rw [if_neg (fun h => h2 h.1)]
      have hcj : c < j := by omega
      rw [(hz c hcj).1, (hz c hcj).2]
      ring

theorem elimRow_sol (n j l : Nat) (s : Sys R) (hj : j < n) (hne : l ≠ j)
    (hz : ∀ c, c < j → s.a j c = 0 ∧ s.a l c = 0) (hg : Good (s.a j j)) (x : Nat → R) :
    Sol n (@elimRow R (ringLinOps ge) n j s l) x ↔ Sol n s x := by
  have hrow : rowDot n (@elimRow R (ringLinOps ge) n j s l).a x l
      = rowDot n s.a x l - (s.a l j / s.a j j) * rowDot n s.a x j := by
    unfold rowDot
    rw [Finset.mul_sum, ← Finset.sum_sub_distrib]
    apply Finset.sum_congr rfl
    intro c hc
    rw [elimRow_entries ge n j l s hz hg c (Finset.mem_range.1 hc)]
    ring
  have hb : (@elimRow R (ringLinOps ge) n j s l).b l = s.b l - (s.a l j / s.a j j) * s.b j := by
    simp only [elimRow, lo_sub, lo_mul, lo_div, if_true]
  -- every other row, the pivot row among them, is untouched
  have hoth : ∀ r, r ≠ l → (rowDot n (@elimRow R (ringLinOps ge) n j s l).a x r
      = (@elimRow R (ringLinOps ge) n j s l).b r ↔ rowDot n s.a x r = s.b r) := fun r hr => by
    unfold rowDot
    obtain ⟨ea, eb⟩ := @elimRow_other R (ringLinOps ge) n j l s r hr
    rw [ea, eb]
  constructor <;> intro h r hr
  · by_cases h1 : r = l
    · subst h1
      have e := h r hr
      rw [hrow, hb, (hoth j hne.symm).1 (h j hj)] at e
      exact sub_left_injective e
    · exact (hoth r h1).1 (h r hr)
  · by_cases h1 : r = l
    · subst h1
      rw [hrow, hb, h r hr, h j hj]
    · exact (hoth r h1).2 (h r hr)

/-- columns `< j` are eliminated below the diagonal -/
def ZerosBelow (n j : Nat) (s : Sys R) : Prop := ∀ r c, c < j → c < r → r < n → s.a r c = 0

/-- columns `< j` are eliminated and their pivots can be divided by -/
structure Elim (n j : Nat) (s : Sys R) : Prop where
  zeros : ZerosBelow n j s
  diag : ∀ i, i < j → Good (s.a i i)

/-- the system at step `j` after the row swap -/
def swapped (n : Nat) (s : Sys R) (j : Nat) : Sys R :=
  let k := @pivotIdx R (ringLinOps ge) n j s.a
  if j ≠ k then swapRows s j k else s

theorem elimStep_eq (n : Nat) (s : Sys R) (j : Nat) :
    @elimStep R (ringLinOps ge) n s j
      = (List.range' (j + 1) (n - (j + 1))).foldl (@elimRow R (ringLinOps ge) n j) (swapped ge n s j) :=
  rfl

/-- "no swap" read as the swap of row `j` with itself -/
theorem swapped_row (n : Nat) (s : Sys R) (j r : Nat) :
    (swapped ge n s j).a r = s.a (Equiv.swap j (@pivotIdx R (ringLinOps ge) n j s.a) r) := by
  unfold swapped
  simp only
  split_ifs with h
  · exact (swapRows_row s j _ r).1
  · rw [← not_not.1 h, Equiv.swap_self]
    rfl

theorem swapped_spec (n : Nat) (s : Sys R) (j : Nat) (hj : j < n) (h : Elim n j s) :
    Elim n j (swapped ge n s j) ∧ ∀ x, Sol n (swapped ge n s j) x ↔ Sol n s x := by
  obtain ⟨k1, k2⟩ := @pivotIdx_bounds R (ringLinOps ge) n j s.a hj
  refine ⟨⟨fun r c hc hcr hr => ?_, fun i hi => ?_⟩, fun x => ?_⟩
  · rw [swapped_row ge n s j r, Equiv.swap_apply_def]
    split_ifs
    · exact h.zeros _ c hc (by omega) k2
    · exact h.zeros j c hc hc hj
    · exact h.zeros r c hc hcr hr
  · rw [swapped_row ge n s j i, Equiv.swap_apply_of_ne_of_ne (by omega) (by omega)]
    exact h.diag i hi
  · unfold swapped
    simp only
    split
    · exact swap_sol n s j _ hj k2 x
    · rfl

/-- The inner loop over the rows `l, l+1, …` below the pivot row `j`, entered with column `j` already zero in
the rows between `j` and `l`: every pass zeroes column `j` in one more row and touches no other row, so at
the end column `j` is eliminated too; no pass changes the solution set. -/
theorem inner_loop (n j : Nat) (hj : j < n) : ∀ (k l : Nat) (s : Sys R), j < l → l + k = n → Elim n j s →
    Good (s.a j j) → (∀ r, j < r → r < l → s.a r j = 0) →
    Elim n (j + 1) ((List.range' l k).foldl (@elimRow R (ringLinOps ge) n j) s) ∧
    ∀ x, Sol n ((List.range' l k).foldl (@elimRow R (ringLinOps ge) n j) s) x ↔ Sol n s x := by
  intro k
  induction k with
  | zero =>
    intro l s _ hl h hg hcol
    refine ⟨⟨fun r c hc hcr hr => ?_, fun i hi => ?_⟩, fun _ => Iff.rfl⟩
    · by_cases hcj : c = j
      · exact hcj ▸ hcol r (by omega) (by omega)
      · exact h.zeros r c (by omega) hcr hr
    · by_cases hij : i = j
      · exact hij ▸ hg
      · exact h.diag i (by omega)
  | succ k ih =>
    intro l s hjl hl h hg hcol
    have other := @elimRow_other R (ringLinOps ge) n j l s
    have hz : ∀ c, c < j → s.a j c = 0 ∧ s.a l c = 0 := fun c hc =>
      ⟨h.zeros j c hc hc hj, h.zeros l c hc (by omega) (by omega)⟩
    refine (ih (l + 1) (@elimRow R (ringLinOps ge) n j s l) (by omega) (by omega)
      ⟨fun r c hc hcr hr => ?_, fun i hi => ?_⟩ ?_ fun r h1 h2 => ?_).imp_right
      fun i2 x => (i2 x).trans (elimRow_sol ge n j l s hj (by omega) hz hg x)
    · by_cases hrl : r = l
      · subst hrl
        rw [elimRow_entries ge n j r s hz hg c (by omega), (hz c hc).1, (hz c hc).2]
        ring
      · rw [(other r hrl).1]
        exact h.zeros r c hc hcr hr
    · rw [(other i (by omega)).1]
      exact h.diag i hi
    · rw [(other j (by omega)).1]
      exact hg
    · by_cases hrl : r = l
      · -- the zero the code writes into column `j`
        subst hrl
        simp only [elimRow, if_true]
        rfl
      · rw [(other r hrl).1]
        exact hcol r h1 (by omega)

/-- one column step: the next column is eliminated with a pivot that can be divided by, and the solution
set is unchanged -/
theorem elimStep_spec (n : Nat) (s : Sys R) (j : Nat) (hj : j < n) (h : Elim n j s)
    (hg : Good ((swapped ge n s j).a j j)) :
    Elim n (j + 1) (@elimStep R (ringLinOps ge) n s j) ∧
    ∀ x, Sol n (@elimStep R (ringLinOps ge) n s j) x ↔ Sol n s x := by
  obtain ⟨z1, z2⟩ := swapped_spec ge n s j hj h
  obtain ⟨i1, i2⟩ := inner_loop ge n j hj (n - (j + 1)) (j + 1) (swapped ge n s j) (by omega) (by omega) z1 hg
    fun r h1 h2 => by omega
  exact ⟨i1, fun x => (i2 x).trans (z2 x)⟩

/-- every pivot met by the forward elimination can be divided by -/
def PivotsGood (n : Nat) : List Nat → Sys R → Prop
  | [], _ => True
  | j :: js, s => Good ((swapped ge n s j).a j j) ∧ PivotsGood n js (@elimStep R (ringLinOps ge) n s j)

theorem forward_spec (n : Nat) : ∀ (k j : Nat) (s : Sys R), j + k = n → Elim n j s →
    PivotsGood ge n (List.range' j k) s →
    Elim n n ((List.range' j k).foldl (@elimStep R (ringLinOps ge) n) s) ∧
    ∀ x, Sol n ((List.range' j k).foldl (@elimStep R (ringLinOps ge) n) s) x ↔ Sol n s x := by
  intro k
  induction k with
  | zero =>
    intro j s hjk h _
    have : j = n := by omega
    exact ⟨this ▸ h, fun _ => Iff.rfl⟩
  | succ k ih =>
    intro j s hjk h hp
    obtain ⟨e1, e2⟩ := elimStep_spec ge n s j (by omega) h hp.1
    obtain ⟨f1, f2⟩ := ih (j + 1) _ (by omega) e1 hp.2
    exact ⟨f1, fun x => (f2 x).trans (e2 x)⟩

/-- Forward elimination, if every pivot can be divided by: the result is upper triangular with a diagonal
that can be divided by, and has the solutions of the input. -/
theorem forwardElim_spec (n : Nat) (s : Sys R) (hp : PivotsGood ge n (List.range n) s) :
    Elim n n (@forwardElim R (ringLinOps ge) n s) ∧
    ∀ x, Sol n (@forwardElim R (ringLinOps ge) n s) x ↔ Sol n s x := by
  unfold forwardElim
  rw [List.range_eq_range'] at hp ⊢
  exact forward_spec ge n n 0 s (by omega) ⟨fun r c hc _ _ => by omega, fun i hi => by omega⟩ hp

/-- one step of the back substitution -/
def backStep (n : Nat) (s : Sys R) (i : Nat) (x : Nat → R) : Nat → R :=
  let v := s.b i - ∑ c ∈ Finset.Ico (i + 1) n, s.a i c * x c
  fun r => if r = i then v / s.a i i else x r

theorem backSubst_eq (n : Nat) (s : Sys R) :
    @backSubst R (ringLinOps ge) n s = (List.range' 0 n).foldr (backStep n s) (fun _ => 0) := by
  unfold backSubst
  rw [List.foldl_reverse, List.range_eq_range']
  congr 1
  funext i x
  funext r
  simp only [backStep, lo_sub, lo_div]
  have hsum : @dotOver R (ringLinOps ge) (List.range' (i + 1) (n - (i + 1))) (s.a i) x
      = ∑ c ∈ Finset.Ico (i + 1) n, s.a i c * x c := by
    rw [dotOver_eq, Nat.Ico_eq_range']
    rfl
  rw [hsum]

theorem back_spec (n : Nat) (u : Sys R) (h : Elim n n u) :
    ∀ (k i : Nat), i + k = n →
      ∀ r, i ≤ r → r < n →
        rowDot n u.a ((List.range' i k).foldr (backStep n u) (fun _ => 0)) r = u.b r := by
  intro k
  induction k with
  | zero => intro i hik r h1 h2; omega
  | succ k ih =>
    intro i hik r hir hr
    rw [List.range'_succ, List.foldr_cons]
    set x' := (List.range' (i + 1) k).foldr (backStep n u) (fun _ => 0) with hx'
    by_cases hri : r = i
    · -- the new component solves row `i`, whose entries left of the diagonal vanish
      subst hri
      have h2 : ∑ c ∈ Ico (r + 1) n, u.a r c * backStep n u r x' c
          = ∑ c ∈ Ico (r + 1) n, u.a r c * x' c :=
        Finset.sum_congr rfl fun c hc => by
          rw [Finset.mem_Ico] at hc
          simp only [backStep, if_neg (show c ≠ r by omega)]
      rw [rowDot_split n _ _ r hr, rowDot_eq_zero r _ _ r fun c hc => h.zeros r c (by omega) hc hr, h2]
      simp only [backStep, if_true]
      rw [mul_comm, h.diag r hr]
      ring
    · -- the rows below do not see it
      rw [← ih (i + 1) (by omega) r (by omega) hr, ← hx']
      refine Finset.sum_congr rfl fun c _ => ?_
      by_cases hci : c = i
      · subst hci
        rw [h.zeros r c (by omega) (by omega) hr]
        ring
      · simp only [backStep, hci, if_false]

/-- an upper-triangular system whose diagonal can be divided by has at most one solution -/
theorem upper_unique (n : Nat) (u : Sys R) (h : Elim n n u) (x y : Nat → R)
    (hx : Sol n u x) (hy : Sol n u y) : ∀ c, c < n → x c = y c := by
  have key : ∀ k c, n - k ≤ c → c < n → x c = y c := by
    intro k
    induction k with
    | zero => intro c h1 h2; omega
    | succ k ih =>
      intro c h1 h2
      by_cases hc : n - k ≤ c
      · exact ih c hc h2
      · have ex := hx c h2
        have ey := hy c h2
        have z := fun w => rowDot_eq_zero c u.a w c fun j hj => h.zeros c j (by omega) hj h2
        have tl : ∑ j ∈ Ico (c + 1) n, u.a c j * x j = ∑ j ∈ Ico (c + 1) n, u.a c j * y j :=
          Finset.sum_congr rfl fun j hj => by
            rw [Finset.mem_Ico] at hj
            rw [ih j (by omega) hj.2]
        rw [rowDot_split n _ _ c h2, z, zero_add] at ex ey
        rw [tl, ← ey] at ex
        have hcc : u.a c c * x c = u.a c c * y c := add_right_cancel ex
        exact (h.diag c h2).mul_left_cancel hcc
  exact fun c hc => key n c (by omega) hc

/-- Soundness: if every pivot can be divided by, the returned vector satisfies `A x = b`. -/
theorem dsolve21_sound (n : Nat) (s : Sys R) (hp : PivotsGood ge n (List.range n) s) :
    Sol n s (@dsolve21 R (ringLinOps ge) n s) := by
  obtain ⟨f1, f2⟩ := forwardElim_spec ge n s hp
  refine (f2 _).1 fun r hr => ?_
  unfold dsolve21
  rw [backSubst_eq]
  exact back_spec n _ f1 n 0 (by omega) r (Nat.zero_le r) hr

/-- Completeness: then every solution of the system is the returned one. -/
theorem dsolve21_unique (n : Nat) (s : Sys R) (hp : PivotsGood ge n (List.range n) s)
    (x : Nat → R) (hx : Sol n s x) : ∀ c, c < n → x c = @dsolve21 R (ringLinOps ge) n s c := by
  obtain ⟨f1, f2⟩ := forwardElim_spec ge n s hp
  exact upper_unique n _ f1 x _ ((f2 x).2 hx) ((f2 _).2 (dsolve21_sound ge n s hp))

end Rateslib
