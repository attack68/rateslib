/-
The loader model (`Model/Load.lean`) only ever returns values that passed the validating data models:
what each loader and validating constructor guarantees of a value it returns, idempotence of the model's
lower-casing.
-/
import RateslibModel.Model.Load
import RateslibModel.Proofs.Basic
namespace Rateslib
open Load

theorem ccyTryNew_spec (name c : String) (h : ccyTryNew name = some c) :
    c = lowerStr name ∧ c.utf8ByteSize = 3 := by
  unfold ccyTryNew at h
  simp only at h
  split at h
  · next h3 => injection h with h; subst h; exact ⟨rfl, h3⟩
  · cases h

theorem toNat_ofNat_small (m : Nat) (h : m < 0xD800) : (Char.ofNat m).toNat = m := by
  have hv : m.isValidChar := Or.inl h
  simp [Char.ofNat, hv, Char.toNat, Char.ofNatAux]

/-- the code points `lowerChar` moves -/
def IsCapital (n : Nat) : Prop :=
  (0x41 ≤ n ∧ n ≤ 0x5A) ∨ (0xC0 ≤ n ∧ n ≤ 0xDE ∧ n ≠ 0xD7) ∨ (0x410 ≤ n ∧ n ≤ 0x42F) ∨
  (0x400 ≤ n ∧ n ≤ 0x40F) ∨ n = 0x212A ∨ n = 0x212B ∨ n = 0x2126 ∨ n = 0x1E9E ∨ n = 0x23A ∨ n = 0x23E

theorem lowerChar_of_not_capital (c : Char) (h : ¬ IsCapital c.toNat) : lowerChar c = c := by
  unfold IsCapital at h
  unfold lowerChar
  simp only
  rw [if_neg (by omega), if_neg (by omega), if_neg (by omega), if_neg (by omega), if_neg (by omega),
    if_neg (by omega), if_neg (by omega), if_neg (by omega)]

/-- no image of `lowerChar` is a capital: a code point that moves lands outside `IsCapital`, one that stays
was not in it -/
theorem not_capital_lowerChar (c : Char) : ¬ IsCapital (lowerChar c).toNat := by
  -- one step per `if`: each `split` on a nested chain simplifies the rest of the chain again (2^8 here)
  have step {p : Prop} [Decidable p] {a b : Char} (ha : p → ¬ IsCapital a.toNat)
      (hb : ¬ p → ¬ IsCapital b.toNat) : ¬ IsCapital (if p then a else b).toNat :=
    iteInduction (motive := fun r : Char => ¬ IsCapital r.toNat) ha hb
  have img (m : Nat) (hm : m < 0xD800) (h : ¬ IsCapital m) : ¬ IsCapital (Char.ofNat m).toNat := by
    rwa [toNat_ofNat_small m hm]
  unfold IsCapital at step img ⊢
  unfold lowerChar
  exact
    step (fun _ => img _ (by omega) (by omega)) fun _ => step (fun _ => img _ (by omega) (by omega)) fun _ =>
    step (fun _ => img _ (by omega) (by omega)) fun _ => step (fun _ => img _ (by omega) (by omega)) fun _ =>
    step (fun _ => img _ (by omega) (by omega)) fun _ => step (fun _ => img _ (by omega) (by omega)) fun _ =>
    step (fun _ => img _ (by omega) (by omega)) fun _ => step (fun _ => img _ (by omega) (by omega)) fun _ =>
    by omega

/-- idempotent because only capitals move and the image holds none -/
theorem lowerChar_idem (c : Char) : lowerChar (lowerChar c) = lowerChar c :=
  lowerChar_of_not_capital _ (not_capital_lowerChar c)

theorem lowerStr_idem (s : String) : lowerStr (lowerStr s) = lowerStr s := by
  unfold lowerStr
  rw [String.map_map]
  congr 1
  funext c
  exact lowerChar_idem c

/-- `NamedCal::try_new` looks at the lower-cased name only -/
theorem namedTryNew_lower (table : String → Option Cal) (name : String) :
    namedTryNew table (lowerStr name) = namedTryNew table name := by
  unfold namedTryNew
  simp only [lowerStr_idem]

section FX
variable {α : Type} [Add α] [Sub α] [Mul α] [Div α] [Neg α] [OfNat α 0] [OfNat α 1] [OfNat α 2]
  [Transc α]

omit [Sub α] [Transc α] in
theorem createFxArray_one_ad (cs : List String) (quotes : List (FXQuote α)) (arr : FxArray α)
    (h : createFxArray cs quotes .one = some arr) : arr.ad = .one := by
  unfold createFxArray at h
  simp only at h
  rw [Option.map_eq_some_iff] at h
  obtain ⟨a, _, rfl⟩ := h
  rfl

omit [Sub α] [Transc α] in
theorem FXRates.tryNew_spec (quotes : List (FXQuote α)) (base : Option String) (f : FXRates α)
    (h : FXRates.tryNew quotes base = .ok f) :
    f.quotes = quotes ∧ f.currencies = fxCurrencies quotes base ∧
    f.currencies.length = f.quotes.length + 1 ∧ f.arr.ad = .one := by
  unfold FXRates.tryNew at h
  simp only at h
  repeat' split at h
  all_goals cases h
  all_goals (rename_i harr; exact ⟨rfl, rfl, by simp only; omega, createFxArray_one_ad _ _ _ harr⟩)

end FX

theorem asVec_forall {α : Type} {elem : JVal → Option α} {P : α → Prop} (hf : ∀ j x, elem j = some x → P x)
    {j : JVal} {l : List α} (h : asVec elem j = some l) : ∀ x ∈ l, P x := by
  cases j with
  | arr items => exact mapM_forall hf h
  | _ => cases h

/-- a validating data model is a guard: what passes satisfies the condition -/
theorem of_bind_guard {α : Type} {P : α → Prop} [DecidablePred P] {o : Option α} {s : α}
    (h : (o.bind fun r => if P r then some r else none) = some s) : P s := by
  obtain ⟨r, _, hv⟩ := Option.bind_eq_some_iff.mp h
  split at hv
  · next he => exact Option.some.inj hv ▸ he
  · cases hv

theorem loadDual_spec (j : JVal) (s : DualShape) (h : loadDual j = some s) : s.nvars = s.ndual :=
  of_bind_guard (P := fun s : DualShape => s.nvars = s.ndual) h

theorem loadDual2_spec (j : JVal) (s : Dual2Shape) (h : loadDual2 j = some s) :
    s.nvars = s.ndual ∧ s.rows = s.nvars ∧ s.cols = s.nvars :=
  of_bind_guard (P := fun s : Dual2Shape => s.nvars = s.ndual ∧ s.rows = s.nvars ∧ s.cols = s.nvars) h

/-- `validSpline` is a chain of guards in front of one value -/
theorem validSpline_eq_some_iff (k : Nat) (t : List JNum) (c : Option Nat) (n : Nat) (s : SplineShape) :
    validSpline k t c n = some s ↔
      (2 ≤ t.length ∧ sortedNums t = true ∧ k ≤ t.length ∧ n = t.length - k ∧ ∀ l, c = some l → l = n) ∧
      s = ⟨k, t.length, n, c⟩ := by
  have hc : coeffsOk c n = true ↔ ∀ l, c = some l → l = n := by cases c <;> simp [coeffsOk]
  simp only [validSpline, Option.ite_none_left_eq_some, Option.some.injEq, Bool.or_eq_true, decide_eq_true_eq,
    Bool.not_eq_true', Bool.not_eq_false, bne_iff_ne, ne_eq, not_or, Nat.not_lt, gt_iff_lt, Decidable.not_not,
    hc, eq_comm (b := s), and_assoc]

theorem loadSplineInner_spec {α : Type} (elem : JVal → Option α) (j : JVal) (s : SplineShape)
    (h : loadSplineInner elem j = some s) :
    ∃ k t c n, validSpline k t c n = some s := by
  unfold loadSplineInner at h
  split at h
  case h_2 => cases h
  split at h
  case h_2 => cases h
  exact ⟨_, _, _, _, h⟩

theorem loadCcy_spec (j : JVal) (c : String) (h : loadCcy j = some c) : c.utf8ByteSize = 3 := by
  unfold loadCcy at h
  split at h
  case h_2 => cases h
  obtain ⟨nm, _, hc⟩ := Option.bind_eq_some_iff.mp h
  exact (ccyTryNew_spec nm c hc).2

theorem req_some {α : Type} (f : JVal → Option α) (o : Option JVal) (x : α) (h : req f o = some x) :
    ∃ v, o = some v ∧ f v = some x := by
  cases o with
  | none => cases h
  | some v => exact ⟨v, rfl, h⟩

theorem loadFXPair_spec (j : JVal) (a b : String) (h : loadFXPair j = some (a, b)) :
    a.utf8ByteSize = 3 ∧ b.utf8ByteSize = 3 ∧ a ≠ b := by
  unfold loadFXPair at h
  split at h
  case h_2 => cases h
  split at h
  case h_2 => cases h
  split at h
  case isTrue => cases h
  cases h
  exact ⟨loadCcy_spec _ _ ‹loadCcy _ = some a›, loadCcy_spec _ _ ‹loadCcy _ = some b›, ‹¬ a = b›⟩

theorem loadFXRate_spec (j : JVal) (q : QuoteShape) (h : loadFXRate j = some q) :
    q.lhs.utf8ByteSize = 3 ∧ q.rhs.utf8ByteSize = 3 ∧ q.lhs ≠ q.rhs := by
  unfold loadFXRate at h
  split at h
  case h_2 => cases h
  split at h
  case h_2 => cases h
  cases h
  obtain ⟨v, _, hv⟩ := req_some _ _ _ ‹req loadFXPair _ = some _›
  exact loadFXPair_spec v _ _ hv

theorem insertCcy_forall {P : String → Prop} {l : List String} {x : String} (hl : ∀ c ∈ l, P c) (hx : P x) :
    ∀ c ∈ insertCcy l x, P c := by
  unfold insertCcy
  split
  · exact hl
  · exact List.forall_mem_append.mpr ⟨hl, List.forall_mem_singleton.mpr hx⟩

/-- a market's currency list holds the base and the quoted names only -/
theorem fxCurrencies_forall {α : Type} {P : String → Prop} (quotes : List (FXQuote α)) (base : Option String)
    (hb : ∀ b, base = some b → P b) (hq : ∀ q ∈ quotes, P q.lhs ∧ P q.rhs) :
    ∀ c ∈ fxCurrencies quotes base, P c := by
  refine List.foldlRecOn (motive := fun l => ∀ c ∈ l, P c) quotes _ ?_ fun acc hacc q hqm =>
    insertCcy_forall (insertCcy_forall hacc (hq q hqm).1) (hq q hqm).2
  cases base with
  | none => exact fun _ h => nomatch h
  | some b => exact List.forall_mem_singleton.mpr (hb b rfl)

theorem validFXRates_spec (quotes : List QuoteShape) (ccys : List String) (s : FXShape)
    (hq : ∀ q ∈ quotes, q.lhs.utf8ByteSize = 3 ∧ q.rhs.utf8ByteSize = 3)
    (hc : ∀ c ∈ ccys, c.utf8ByteSize = 3)
    (h : validFXRates quotes ccys = some s) :
    s.currencies.length = s.nquotes + 1 ∧ ∀ c ∈ s.currencies, c.utf8ByteSize = 3 := by
  unfold validFXRates at h
  cases hb : ccys.head? with
  | none => simp [hb] at h
  | some base =>
    simp only [hb] at h
    cases ht : FXRates.tryNew (quotes.map quoteOf) (some base) with
    | error e => simp [ht] at h
    | ok f =>
      simp only [ht] at h
      injection h with h
      subst h
      obtain ⟨_, h2, h3, _⟩ := FXRates.tryNew_spec _ _ f ht
      refine ⟨h3, ?_⟩
      simp only [h2]
      exact fxCurrencies_forall _ _ (fun b hbase => Option.some.inj hbase ▸ hc _ (List.mem_of_mem_head? hb))
        (List.forall_mem_map.mpr hq)

/-- the shape invariant of a loaded curve's nodes: every dual-number node passed its validating model -/
def NodesOK : NodesShape → Prop
  | .f64 _ => True
  | .dual l => ∀ d ∈ l, d.nvars = d.ndual
  | .dual2 l => ∀ d ∈ l, d.nvars = d.ndual ∧ d.rows = d.nvars ∧ d.cols = d.nvars

theorem lastPerKey_forall {α : Type} {P : α → Prop} {l : List (Int × α)} (h : ∀ p ∈ l, P p.2) :
    ∀ x ∈ lastPerKey l, P x := by
  intro x hx
  unfold lastPerKey at hx
  obtain ⟨k, _, hk⟩ := List.mem_filterMap.mp hx
  obtain ⟨p, hp, rfl⟩ := Option.map_eq_some_iff.mp hk
  exact h p (List.mem_filter.mp (List.mem_of_getLast? hp)).1

theorem asI64Map_forall {α : Type} {elem : JVal → Option α} {P : α → Prop}
    (hf : ∀ j x, elem j = some x → P x) {j : JVal} {l : List (Int × α)} (h : asI64Map elem j = some l) :
    ∀ p ∈ l, P p.2 := by
  cases j with
  | obj kvs =>
    refine mapM_forall (fun kv p hkv => ?_) h
    split at hkv
    · cases hkv
      exact hf _ _ ‹elem kv.2 = some _›
    · cases hkv
  | _ => cases h

theorem loadNodes_spec (j : JVal) (s : NodesShape) (h : loadNodes j = some s) : NodesOK s := by
  unfold loadNodes at h
  split at h
  case h_4 => cases h
  all_goals obtain ⟨l, hl, rfl⟩ := Option.map_eq_some_iff.mp h
  · trivial
  · exact lastPerKey_forall (asI64Map_forall loadDual_spec hl)
  · exact lastPerKey_forall (asI64Map_forall loadDual2_spec hl)

theorem unitEnumOf_mem (names : List String) (j : JVal) (s : String) (h : unitEnumOf names j = some s) :
    s ∈ names := by
  unfold unitEnumOf at h
  split at h
  case h_3 => cases h
  -- the two accepting forms (`"Name"`, `{"Name": null}`) are both `if names.contains k then some k else none`
  all_goals
    simp only [Option.ite_none_right_eq_some, Option.some.injEq, List.contains_iff_mem] at h
    obtain ⟨hmem, rfl⟩ := h
    exact hmem

theorem loadInterpolator_mem (j : JVal) (s : String) (h : loadInterpolator j = some s) :
    s ∈ interpolatorNames := by
  unfold loadInterpolator at h
  split at h
  case h_2 => cases h
  simp only [Option.ite_none_right_eq_some, Option.some.injEq, Bool.and_eq_true,
    List.contains_iff_mem] at h
  obtain ⟨⟨hmem, _⟩, rfl⟩ := h
  exact hmem

theorem loadCalType_mem (table : String → Option Cal) (j : JVal) (s : String)
    (h : loadCalType table j = some s) : s ∈ ["Cal", "UnionCal", "NamedCal"] := by
  unfold loadCalType at h
  split at h
  case h_4 => cases h
  -- each accepting arm is `(loader v).map fun _ => tag` with its own tag
  all_goals
    obtain ⟨_, _, rfl⟩ := Option.map_eq_some_iff.mp h
    decide

end Rateslib
