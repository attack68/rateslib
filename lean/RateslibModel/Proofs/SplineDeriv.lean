/-
The real spline `Σ c_i B_i` as a `Finset` sum (`fdot_real_sum`, `ppdnev_real`) and its linearity in the basis
values.
-/
import RateslibModel.Model.Spline
import RateslibModel.Analysis.RealInst
import RateslibModel.Proofs.Gauss
namespace Rateslib

/-- over ℝ the module arithmetic of `fdotOver` is the ring arithmetic of `dotOver` (whatever the pivot
comparison, which a dot product does not use) -/
theorem fdot_real_sum (n : Nat) (f g : Nat → ℝ) :
    fdotOver (α := ℝ) (σ := ℝ) (List.range n) f g = ∑ i ∈ Finset.range n, f i * g i :=
  dotOver_range (fun _ _ => true) n f g

theorem fdot_real_lin2 (n : Nat) (c B1 B2 : Nat → ℝ) (p q : ℝ) :
    fdotOver (α := ℝ) (σ := ℝ) (List.range n) c (fun i => B1 i * p + B2 i * q)
      = (∑ i ∈ Finset.range n, B1 i * c i) * p + (∑ i ∈ Finset.range n, B2 i * c i) * q := by
  rw [fdot_real_sum, Finset.sum_mul, Finset.sum_mul, ← Finset.sum_add_distrib]
  exact Finset.sum_congr rfl fun i _ => by ring

theorem fdot_real_scale (n : Nat) (c B : Nat → ℝ) (d : ℝ) :
    fdotOver (α := ℝ) (σ := ℝ) (List.range n) c (fun i => B i * d)
      = (∑ i ∈ Finset.range n, B i * c i) * d := by
  simpa using fdot_real_lin2 n c B (fun _ => 0) d 0

theorem fdot_real_comm (n : Nat) (c B : Nat → ℝ) :
    fdotOver (α := ℝ) (σ := ℝ) (List.range n) c B = ∑ i ∈ Finset.range n, B i * c i := by
  simpa using fdot_real_scale n c B 1

theorem ppdnev_real (s : PPSpline ℝ ℝ) (c : List ℝ) (hc : s.c = some c) (x : ℝ) (m : Nat) :
    s.ppdnev x m = some (∑ i ∈ Finset.range s.n, bspldnev s.t x m i s.k none * c.getD i 0) := by
  simp only [PPSpline.ppdnev, hc, Option.map_some]
  exact congrArg some (fdot_real_sum _ _ _)

end Rateslib
