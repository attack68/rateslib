/-
Derivatives of the B-spline basis (C14).

The Cox–de Boor recursion is taken over an arbitrary family `b i` of order-1 functions and differentiated
within an arbitrary set `S`: with the half-open indicators `[t_i, t_{i+1})` and `S = [x, ∞)` this gives
the RIGHT derivatives of the Cox–de Boor piecewise polynomial at every point; with the indicators
`(t_i, t_{i+1}]` (the left-continuous representative of the same piecewise polynomial) and `S = (−∞, x]`
it gives the LEFT derivatives, which is what the right end point needs.  The model's `bspldnev` is then
identified with the derivative recursion: strictly before the last knot (right derivatives) and exactly
at the last knot (left derivatives; here the right-end-point rule of `bsplev`, which depends on the
ORIGINAL order carried through the derivative recursion, is what makes the values right).
-/
import RateslibModel.Proofs.BSpline
import Mathlib.Analysis.Calculus.Deriv.Mul
import Mathlib.Analysis.Calculus.Deriv.Add
namespace Rateslib
open Set Topology

/-- the derivative recursion: order `m` of the function of order `k`, index `i` -/
noncomputable def genD (b : Nat → ℝ → ℝ) (t : List ℝ) (x : ℝ) : Nat → Nat → Nat → ℝ
  | 0, k, i => genB b t x k i
  | _ + 1, 0, _ => 0
  | m + 1, k + 1, i => (k : ℝ) * (genD b t x m k i / (knot t (i + k) - knot t i)
      - genD b t x m k (i + 1) / (knot t (i + (k + 1)) - knot t (i + 1)))

theorem genD_zero (b : Nat → ℝ → ℝ) (t : List ℝ) (x : ℝ) (k i : Nat) :
    genD b t x 0 k i = genB b t x k i := by rw [genD]

theorem genD_succ_zero (b : Nat → ℝ → ℝ) (t : List ℝ) (x : ℝ) (m i : Nat) :
    genD b t x (m + 1) 0 i = 0 := rfl

theorem genD_succ (b : Nat → ℝ → ℝ) (t : List ℝ) (x : ℝ) (m k i : Nat) :
    genD b t x (m + 1) (k + 1) i = (k : ℝ) * (genD b t x m k i / (knot t (i + k) - knot t i)
      - genD b t x m k (i + 1) / (knot t (i + (k + 1)) - knot t (i + 1))) := rfl

/-- the algebraic heart of the derivative formula -/
theorem deriv_identity (x k ti ti1 tk tk1 tk2 ti2 P0 P1 P2 : ℝ)
    (h1 : ti ≤ ti1) (h3 : ti1 ≤ tk1) (h2 : tk1 ≤ tk2) :
    (x - ti) / (tk1 - ti) * (k * (P0 / (tk - ti) - P1 / (tk1 - ti1)))
      + (tk2 - x) / (tk2 - ti1) * (k * (P1 / (tk1 - ti1) - P2 / (tk2 - ti2)))
    = k * (((x - ti) / (tk - ti) * P0 + (tk1 - x) / (tk1 - ti1) * P1) / (tk1 - ti)
        - ((x - ti1) / (tk1 - ti1) * P1 + (tk2 - x) / (tk2 - ti2) * P2) / (tk2 - ti1)) := by
  -- the `P0` and `P2` terms agree as they stand; the `P1` terms differ by the factor
  -- `(tk2 − ti1)/(tk2 − ti1) − (tk1 − ti)/(tk1 − ti)`, which is zero unless `P1` is divided by zero
  by_cases hC : tk1 - ti1 = 0
  · rw [hC]; simp only [div_zero, zero_mul, sub_zero, zero_sub, add_zero, zero_add]
    ring
  · have hpos : 0 < tk1 - ti1 := lt_of_le_of_ne (sub_nonneg.2 h3) (Ne.symm hC)
    have hA : (tk1 - ti) / (tk1 - ti) = 1 := div_self (by linarith only [hpos, h1] : 0 < tk1 - ti).ne'
    have hD : (tk2 - ti1) / (tk2 - ti1) = 1 := div_self (by linarith only [hpos, h2] : 0 < tk2 - ti1).ne'
    linear_combination (k * P1 / (tk1 - ti1)) * (hD - hA)

/-- the first derivative recursion commutes with the Cox–de Boor step (`deriv_identity` on the knots) -/
theorem genD_one_step (b : Nat → ℝ → ℝ) (t : List ℝ) (hs : SortedKnots t) (x : ℝ) (k i : Nat)
    (hik : i + (k + 1 + 1) < t.length) :
    (x - knot t i) / (knot t (i + (k + 1)) - knot t i) * genD b t x 1 (k + 1) i
      + (knot t (i + (k + 1 + 1)) - x) / (knot t (i + (k + 1 + 1)) - knot t (i + 1))
        * genD b t x 1 (k + 1) (i + 1)
    = k * (genB b t x (k + 1) i / (knot t (i + (k + 1)) - knot t i)
        - genB b t x (k + 1) (i + 1) / (knot t (i + (k + 1 + 1)) - knot t (i + 1))) := by
  by_cases hk0 : k = 0
  · subst hk0
    rw [genD_succ, genD_succ, Nat.cast_zero, zero_mul, zero_mul, zero_mul, mul_zero, mul_zero, add_zero]
  · have i1 : i + 1 + k = i + (k + 1) := by omega
    have i2 : i + 1 + (k + 1) = i + (k + 1 + 1) := by omega
    rw [genB_succ b t x k i hk0, genB_succ b t x k (i + 1) hk0, genD_succ, genD_succ, i1, i2]
    simp only [genD_zero]
    exact deriv_identity x k (knot t i) (knot t (i + 1)) (knot t (i + k)) (knot t (i + (k + 1)))
      (knot t (i + (k + 1 + 1))) (knot t (i + 1 + 1)) _ _ _ (hs _ _ (by omega) (by omega))
      (hs _ _ (by omega) (by omega)) (hs _ _ (by omega) (by omega))

/-- THE DERIVATIVE FORMULA, within any set `S` in which the order-1 functions have derivative 0 at `x`:
`B_{i,k}` has at `x` the derivative `(k−1)·(B_{i,k−1}(x)/(t_{i+k−1}−t_i) − B_{i+1,k−1}(x)/(t_{i+k}−t_{i+1}))`
— by induction on the order, through the recursion. -/
theorem genB_hasDeriv (b : Nat → ℝ → ℝ) (t : List ℝ) (hs : SortedKnots t) (S : Set ℝ) (x : ℝ)
    (hb : ∀ i, HasDerivWithinAt (b i) 0 S x) :
    ∀ (k i : Nat), i + k < t.length →
      HasDerivWithinAt (fun y => genB b t y k i) (genD b t x 1 k i) S x := by
  intro k
  induction k with
  | zero =>
    intro i _
    exact hasDerivWithinAt_const _ _ _
  | succ k ih =>
    intro i hik
    by_cases hk : k = 0
    · subst hk
      rw [genD_succ, Nat.cast_zero, zero_mul]
      exact hb i
    · obtain ⟨k', rfl⟩ : ∃ k', k = k' + 1 := ⟨k - 1, by omega⟩
      have w1 : HasDerivWithinAt (fun y : ℝ => (y - knot t i) / (knot t (i + (k' + 1)) - knot t i))
          (1 / (knot t (i + (k' + 1)) - knot t i)) S x :=
        ((hasDerivWithinAt_id x S).sub_const _).div_const _
      have w2 : HasDerivWithinAt (fun y : ℝ => (knot t (i + (k' + 1 + 1)) - y)
            / (knot t (i + (k' + 1 + 1)) - knot t (i + 1)))
          (-1 / (knot t (i + (k' + 1 + 1)) - knot t (i + 1))) S x :=
        ((hasDerivWithinAt_id x S).const_sub _).div_const _
      have hsum := (w1.mul (ih i (by omega))).add (w2.mul (ih (i + 1) (by omega)))
      refine (hsum.congr_of_eventuallyEq (Filter.Eventually.of_forall fun y =>
        genB_succ b t y (k' + 1) i (by omega)) (genB_succ b t x (k' + 1) i (by omega))).congr_deriv ?_
      have h := genD_one_step b t hs x k' i (by omega)
      rw [genD_succ b t x 0 (k' + 1) i, genD_zero, genD_zero, Nat.cast_succ]
      linear_combination h

/-- ALL ORDERS: the `(m+1)`-th derivative recursion is the derivative of the `m`-th. -/
theorem genD_hasDeriv (b : Nat → ℝ → ℝ) (t : List ℝ) (hs : SortedKnots t) (S : Set ℝ) (x : ℝ)
    (hb : ∀ i, HasDerivWithinAt (b i) 0 S x) :
    ∀ (m k i : Nat), i + k < t.length →
      HasDerivWithinAt (fun y => genD b t y m k i) (genD b t x (m + 1) k i) S x := by
  intro m
  induction m with
  | zero => exact genB_hasDeriv b t hs S x hb
  | succ m ih =>
    intro k i hik
    cases k with
    | zero => exact hasDerivWithinAt_const _ _ _
    | succ k' =>
      exact ((ih k' i (by omega)).div_const _).sub ((ih k' (i + 1) (by omega)).div_const _) |>.const_mul _

/-- derivative orders at or above the order of the spline vanish -/
theorem genD_high (b : Nat → ℝ → ℝ) (t : List ℝ) (x : ℝ) :
    ∀ (m k i : Nat), k ≤ m → 0 < m → genD b t x m k i = 0 := by
  intro m
  induction m with
  | zero => intro k i _ h; omega
  | succ m ih =>
    intro k i hk _
    cases k with
    | zero => exact genD_succ_zero _ t x m i
    | succ k' =>
      rw [genD_succ]
      by_cases hk0 : k' = 0
      · rw [hk0, Nat.cast_zero, zero_mul]
      · rw [ih k' i (by omega) (by omega), ih k' (i + 1) (by omega) (by omega), zero_div, zero_div,
          sub_self, mul_zero]

/-- the two representatives agree wherever `x` is not a knot: they are the same piecewise polynomial -/
theorem genB_bL_eq_bR (t : List ℝ) (x : ℝ) (hx : ∀ j, j < t.length → knot t j ≠ x) :
    ∀ (k i : Nat), i + k < t.length → genB (bL t) t x k i = genB (bR t) t x k i := by
  intro k
  induction k with
  | zero => intro i _; rfl
  | succ k ih =>
    intro i hik
    rw [genB, genB]
    by_cases hk : k = 0
    · subst hk
      simp only [if_true, bL, bR]
      have h1 : knot t i < x ↔ knot t i ≤ x := (hx i (by omega)).le_iff_lt.symm
      have h2 : x ≤ knot t (i + 1) ↔ x < knot t (i + 1) := (hx (i + 1) (by omega)).symm.le_iff_lt
      simp only [h1, h2]
    · rw [if_neg hk, if_neg hk, ih i (by omega), ih (i + 1) (by omega)]

theorem genD_bL_eq_bR (t : List ℝ) (x : ℝ) (hx : ∀ j, j < t.length → knot t j ≠ x) :
    ∀ (m k i : Nat), i + k < t.length → genD (bL t) t x m k i = genD (bR t) t x m k i := by
  intro m
  induction m with
  | zero => intro k i hik; rw [genD_zero, genD_zero]; exact genB_bL_eq_bR t x hx k i hik
  | succ m ih =>
    intro k i hik
    cases k with
    | zero => rw [genD_succ_zero, genD_succ_zero]
    | succ k' => rw [genD_succ, genD_succ, ih k' i (by omega), ih k' (i + 1) (by omega)]

/-- immediately to the right of `x`, every comparison with a fixed `a` has the truth value it has at `x` -/
theorem eventually_le_iff_right (a x : ℝ) : ∀ᶠ y in 𝓝[≥] x, (a ≤ y ↔ a ≤ x) := by
  by_cases h : a ≤ x
  · filter_upwards [self_mem_nhdsWithin] with y hy
    exact iff_of_true (h.trans hy) h
  · filter_upwards [nhdsWithin_le_nhds (Iio_mem_nhds (not_le.1 h))] with y hy
    exact iff_of_false (not_le.2 hy) h

theorem eventually_le_iff_left (a x : ℝ) : ∀ᶠ y in 𝓝[≤] x, (y ≤ a ↔ x ≤ a) := by
  by_cases h : x ≤ a
  · filter_upwards [self_mem_nhdsWithin] with y hy
    exact iff_of_true (le_trans hy h) h
  · filter_upwards [nhdsWithin_le_nhds (Ioi_mem_nhds (not_le.1 h))] with y hy
    exact iff_of_false (not_le.2 hy) h

/-- order 1, right-continuous: constant immediately to the right of every point -/
theorem bR_hasDeriv (t : List ℝ) (x : ℝ) (i : Nat) : HasDerivWithinAt (bR t i) 0 (Ici x) x := by
  refine (hasDerivWithinAt_const x _ (bR t i x)).congr_of_eventuallyEq ?_ rfl
  filter_upwards [eventually_le_iff_right (knot t i) x,
    eventually_le_iff_right (knot t (i + 1)) x] with y h1 h2
  simp only [bR, ← not_le, h1, h2]

/-- order 1, left-continuous: constant immediately to the left of every point -/
theorem bL_hasDeriv (t : List ℝ) (x : ℝ) (i : Nat) : HasDerivWithinAt (bL t i) 0 (Iic x) x := by
  refine (hasDerivWithinAt_const x _ (bL t i x)).congr_of_eventuallyEq ?_ rfl
  filter_upwards [eventually_le_iff_left (knot t i) x,
    eventually_le_iff_left (knot t (i + 1)) x] with y h1 h2
  simp only [bL, ← not_le, h1, h2]

/-- a guarded quotient is the quotient (division by zero is zero over ℝ as in Lean) -/
theorem guard_div (r a d : ℝ) : (if (!Transc.eqb d 0) = true then r + a / d else r) = r + a / d := by
  by_cases h : d = 0
  · subst h; simp
  · have : Transc.eqb d (0:ℝ) = false := by
      rw [← Bool.not_eq_true, eqb_iff]; exact h
    simp [this]

theorem guard_div_sub (r a d : ℝ) : (if (!Transc.eqb d 0) = true then r - a / d else r) = r - a / d := by
  simpa only [sub_eq_add_neg, neg_div] using guard_div r (-a) d

/-- The model's derivative recursion against the derivative recursion over ANY order-1 functions `b`, at one
point `x`: all that is needed is that the value leaves (evaluated with the carried original order `K`) agree
with `genB b` once divided by the width of their support — the zero-denominator guards only skip terms that
are zero. -/
theorem bspldnev_eq_genD_of_leaves (b : Nat → ℝ → ℝ) (t : List ℝ) (x : ℝ) (K : Nat)
    (hleaf : ∀ j i, 1 ≤ j → i + j < t.length →
      bsplev t x j i K / (knot t (i + j) - knot t i) = genB b t x j i / (knot t (i + j) - knot t i)) :
    ∀ (m k i : Nat) (org : Option Nat), m ≠ 0 → i + k < t.length → org.getD k = K →
      bspldnev t x m i k org = genD b t x m k i := by
  intro m
  induction m with
  | zero => intro _ _ _ h; exact absurd rfl h
  | succ m ih =>
    intro k i org _ hik horg
    unfold bspldnev
    by_cases hc : (decide (k = 1) || decide (m + 1 ≥ k)) = true
    · rw [if_pos hc]
      simp only [Bool.or_eq_true, decide_eq_true_eq] at hc
      exact (genD_high _ t x (m + 1) k i (by omega) (by omega)).symm
    · rw [if_neg hc]
      simp only [Bool.or_eq_true, decide_eq_true_eq, not_or] at hc
      obtain ⟨k', rfl⟩ : ∃ k', k = k' + 1 := ⟨k - 1, by omega⟩
      have e1 : i + (k' + 1) - 1 = i + k' := by omega
      have e2 : k' + 1 - 1 = k' := by omega
      simp only [e1, e2, guard_div, guard_div_sub, ofInt_real, horg]
      by_cases hm : m = 0
      · subst hm
        have h2 := hleaf k' (i + 1) (by omega) (by omega)
        rw [Nat.add_right_comm, Nat.add_assoc] at h2
        rw [if_pos rfl, hleaf k' i (by omega) (by omega), h2, genD_succ, genD_zero, genD_zero]
        ring
      · rw [if_neg hm, ih k' i _ hm (by omega) rfl, ih k' (i + 1) _ hm (by omega) rfl, genD_succ]
        ring

/-- STRICTLY BEFORE THE LAST KNOT the model's derivative evaluation is the derivative recursion over the
half-open indicators: the original order that is carried along is never consulted. -/
theorem bspldnev_eq_genD (t : List ℝ) (hs : SortedKnots t) (x : ℝ) (hx : x < knot t (t.length - 1)) :
    ∀ (m k i : Nat) (org : Option Nat), i + k < t.length →
      bspldnev t x m i k org = genD (bR t) t x m k i := by
  intro m k i org hik
  by_cases hm : m = 0
  · subst hm; exact bsplev_eq_genB t hs x hx k i k hik
  · exact bspldnev_eq_genD_of_leaves (bR t) t x _
      (fun j i _ hij => by rw [bsplev_eq_genB t hs x hx j i _ hij]) m k i org hm hik rfl

/-- an order-`K` knot vector whose last knot has multiplicity exactly `K` -/
structure RightEnd (t : List ℝ) (K : Nat) : Prop where
  sorted : SortedKnots t
  hK : 1 ≤ K
  len : K + 1 ≤ t.length
  endEq : knot t (t.length - K) = knot t (t.length - 1)
  interior : knot t (t.length - K - 1) < knot t (t.length - 1)

namespace RightEnd
variable {t : List ℝ} {K : Nat}

theorem at_end (H : RightEnd t K) (j : Nat) (h1 : t.length - K ≤ j) (h2 : j < t.length) :
    knot t j = knot t (t.length - 1) := by
  have a := H.sorted (t.length - K) j h1 h2
  have b := H.sorted j (t.length - 1) (by omega) (by have := H.len; omega)
  rw [H.endEq] at a
  exact le_antisymm b a

theorem before_end (H : RightEnd t K) (j : Nat) (h1 : j ≤ t.length - K - 1) :
    knot t j < knot t (t.length - 1) :=
  lt_of_le_of_lt (H.sorted j _ h1 (by have := H.len; omega)) H.interior

/-- the model's value rule at the last knot, with the ORIGINAL order `K` carried along: 1 on the last
non-empty span's function whatever the current order `j`, 0 on every function further left -/
theorem bsplev_end (H : RightEnd t K) : ∀ (j i : Nat), 1 ≤ j → i + j < t.length → i ≤ t.length - K - 1 →
    bsplev t (knot t (t.length - 1)) j i K = if i = t.length - K - 1 then 1 else 0 := by
  intro j i hj hij his
  have hlen := H.len
  have hK := H.hK
  by_cases hi : i = t.length - K - 1
  · rw [if_pos hi]
    exact bsplev_last_one t H.sorted j i K hj hij (H.at_end _ (by omega) hij) (by omega)
  · rw [if_neg hi]
    exact bsplev_last_zero t H.sorted j i K hij (by omega)

/-- the left-continuous representative at the last knot: 1 on the last non-empty span's function, 0 on
all others, whatever the order -/
theorem genB_bL_end (H : RightEnd t K) : ∀ (j i : Nat), 1 ≤ j → i + j < t.length →
    genB (bL t) t (knot t (t.length - 1)) j i = if i = t.length - K - 1 then 1 else 0 := by
  intro j
  have hlen := H.len
  have hK := H.hK
  induction j with
  | zero => intro i h; omega
  | succ j ih =>
    intro i _ hij
    by_cases hj0 : j = 0
    · subst hj0
      rw [genB_one]
      simp only [bL]
      by_cases hi : i = t.length - K - 1
      · rw [if_pos hi, if_pos]
        refine ⟨H.before_end i (by omega), ?_⟩
        rw [H.at_end (i + 1) (by omega) (by omega)]
      · rw [if_neg hi, if_neg]
        rintro ⟨h1, h2⟩
        by_cases hlt : i < t.length - K - 1
        · exact absurd h2 (not_le.2 (H.before_end (i + 1) (by omega)))
        · exact absurd h1 (H.at_end i (by omega) (by omega)).not_lt
    · rw [genB_succ _ t _ j i hj0, ih i (by omega) (by omega), ih (i + 1) (by omega) (by omega)]
      by_cases hi : i = t.length - K - 1
      · rw [if_pos hi, if_neg (by omega)]
        have e1 : knot t (i + j) = knot t (t.length - 1) := H.at_end _ (by omega) (by omega)
        have e0 : knot t i < knot t (t.length - 1) := H.before_end i (by omega)
        rw [e1, div_self (sub_ne_zero.2 e0.ne')]; ring
      · rw [if_neg hi]
        by_cases hi1 : i + 1 = t.length - K - 1
        · rw [if_pos hi1]
          have e1 : knot t (i + (j + 1)) = knot t (t.length - 1) := H.at_end _ (by omega) (by omega)
          rw [e1]; simp
        · rw [if_neg hi1]; ring

/-- a value leaf of the derivative recursion, divided by the width of its support: the model's value
(which is 1 also on the zero-width functions right of the last span) and the true value agree -/
theorem leaf_div (H : RightEnd t K) (j i : Nat) (hj : 1 ≤ j) (hij : i + j < t.length) :
    bsplev t (knot t (t.length - 1)) j i K / (knot t (i + j) - knot t i)
      = genB (bL t) t (knot t (t.length - 1)) j i / (knot t (i + j) - knot t i) := by
  have hlen := H.len
  by_cases his : i ≤ t.length - K - 1
  · rw [H.bsplev_end j i hj hij his, H.genB_bL_end j i hj hij]
  · have e1 := H.at_end i (by omega) (by omega)
    have e2 := H.at_end (i + j) (by omega) hij
    rw [e1, e2, sub_self, div_zero, div_zero]

/-- AT THE LAST KNOT the model's derivative evaluation, carrying the original order `K`, is the
derivative recursion over the LEFT-continuous indicators. -/
theorem bspldnev_end (H : RightEnd t K) (m i : Nat) (hi : i + K < t.length) :
    bspldnev t (knot t (t.length - 1)) m i K none = genD (bL t) t (knot t (t.length - 1)) m K i := by
  by_cases hm : m = 0
  · subst hm
    show bsplev t _ K i K = genB (bL t) t _ K i
    rw [H.bsplev_end K i H.hK hi (by omega), H.genB_bL_end K i H.hK hi]
  · exact bspldnev_eq_genD_of_leaves (bL t) t _ K H.leaf_div m K i none hm hi rfl

end RightEnd

/-- RIGHT DERIVATIVES: at every point strictly before the last knot — interior knots of any multiplicity
and the left end point included — the order-`(m+1)` output of `bspldnev`, as a function of the
abscissa, is the right derivative of its order-`m` output. -/
theorem bspldnev_right_deriv (t : List ℝ) (hs : SortedKnots t) (x : ℝ) (hx : x < knot t (t.length - 1))
    (m k i : Nat) (org : Option Nat) (hik : i + k < t.length) :
    HasDerivWithinAt (fun y => bspldnev t y m i k org) (bspldnev t x (m + 1) i k org) (Ici x) x := by
  have h := genD_hasDeriv (bR t) t hs (Ici x) x (bR_hasDeriv t x) m k i hik
  rw [bspldnev_eq_genD t hs x hx (m + 1) k i org hik]
  refine h.congr_of_eventuallyEq ?_ (bspldnev_eq_genD t hs x hx m k i org hik)
  have : ∀ᶠ y in 𝓝[≥] x, y < knot t (t.length - 1) := nhdsWithin_le_nhds (Iio_mem_nhds hx)
  filter_upwards [this] with y hy
  exact bspldnev_eq_genD t hs y hy m k i org hik

/-- LEFT DERIVATIVES AT THE RIGHT END POINT: for a spline of order `K` whose last knot has multiplicity
`K`, the order-`(m+1)` output of `bspldnev` at the last knot is the LEFT derivative there of its
order-`m` output. -/
theorem bspldnev_left_deriv_end (t : List ℝ) (K : Nat) (H : RightEnd t K) (m i : Nat) (hi : i + K < t.length) :
    HasDerivWithinAt (fun y => bspldnev t y m i K none)
      (bspldnev t (knot t (t.length - 1)) (m + 1) i K none) (Iic (knot t (t.length - 1)))
      (knot t (t.length - 1)) := by
  have hlen := H.len
  have h := genD_hasDeriv (bL t) t H.sorted (Iic (knot t (t.length - 1))) (knot t (t.length - 1))
    (bL_hasDeriv t _) m K i hi
  rw [H.bspldnev_end (m + 1) i hi]
  refine h.congr_of_eventuallyEq ?_ (H.bspldnev_end m i hi)
  have : Ioc (knot t (t.length - K - 1)) (knot t (t.length - 1)) ∈ 𝓝[≤] (knot t (t.length - 1)) :=
    Ioc_mem_nhdsLE H.interior
  filter_upwards [this] with y hy
  rcases lt_or_eq_of_le hy.2 with hlt | heq
  · -- strictly inside the last span: not a knot, both representatives agree
    rw [bspldnev_eq_genD t H.sorted y hlt m K i none hi]
    symm
    apply genD_bL_eq_bR t y _ m K i hi
    intro j hj hjy
    by_cases hjs : j ≤ t.length - K - 1
    · exact absurd hy.1 (not_lt.2 (hjy ▸ H.sorted j (t.length - K - 1) hjs (by omega)))
    · exact hlt.ne (hjy ▸ H.at_end j (by omega) hj)
  · rw [heq]; exact H.bspldnev_end m i hi

end Rateslib
