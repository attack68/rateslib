/-
Completeness and rejection for the triangulation `fill` (= mut_arrays_remaining_elements): on a quote
graph that connects all currencies the loop terminates with every pair populated (within `fillFuel`);
on a graph that does not, it never returns a result.  Graph reasoning on the `edges` array only.
-/
import RateslibModel.Proofs.FXInit
namespace Rateslib

section Graph
variable {τ : Type} [FxOps τ]

def ReflEdges (n : Nat) (a : FxArr τ) : Prop := ∀ i, i < n → a.edges i i = true

/-- `S` is a union of connected components -/
def Closed (n : Nat) (a : FxArr τ) (S : Nat → Prop) : Prop :=
  ∀ i j, i < n → j < n → a.edges i j = true → (S i ↔ S j)

/-- the populated pairs connect all `n` currencies -/
def Connected (n : Nat) (a : FxArr τ) : Prop :=
  ∀ S : Nat → Prop, Closed n a S → (∃ i, i < n ∧ S i) → ∀ j, j < n → S j

/-- all neighbours of `v` are pairwise populated -/
def CliqueAt (n : Nat) (a : FxArr τ) (v : Nat) : Prop :=
  ∀ x y, x < n → y < n → a.edges v x = true → a.edges v y = true → a.edges x y = true

omit [FxOps τ] in
/-- in a connected, incomplete graph some currency has two neighbours without a rate between them -/
theorem exists_nonclique (n : Nat) (a : FxArr τ) (hs : SymmEdges a) (hr : ReflEdges n a)
    (hc : Connected n a) (hfull : edgeCount n a.edges ≠ n * n) : ∃ v, v < n ∧ ¬ CliqueAt n a v := by
  by_contra hall
  have hall' : ∀ v, v < n → CliqueAt n a v := fun v hv => by_contra fun h => hall ⟨v, hv, h⟩
  refine hfull ((edgeCount_eq_iff n _).2 fun u w hu hw => ?_)
  -- the neighbours of `u` are closed under the populated pairs, so they are everything
  refine hc (fun x => a.edges u x = true) (fun i j hi hj hij => ⟨fun hui => ?_, fun huj => ?_⟩)
    ⟨u, hu, hr u hu⟩ w hw
  · exact hall' i hi u j hu hj (hs _ _ ▸ hui) hij
  · exact hall' j hj u i hu hi (hs _ _ ▸ huj) (hs _ _ ▸ hij)

theorem combosOf_nil_of_clique (n : Nat) (a : FxArr τ) (v : Nat) (h : CliqueAt n a v) :
    combosOf n a v = [] := by
  refine List.eq_nil_iff_forall_not_mem.2 fun c hc => ?_
  obtain ⟨h1, h2, _, h0⟩ := (mem_combosOf n a v c).1 hc
  rw [h c.1 c.2 h1.1 h2.1 h1.2.1 h2.2.1] at h0
  cases h0

theorem fillNode_of_nil (n : Nat) (a : FxArr τ) (v : Nat) (h : combosOf n a v = []) :
    (fillNode n a v).1 = a := by
  rw [fillNode_eq, h]
  rfl

theorem fillNode_count (n : Nat) (a : FxArr τ) (v : Nat) :
    (fillNode n a v).2 = (combosOf n a v).length := by
  rw [fillNode_eq]

/-- the pass does not change who the node's neighbours are -/
theorem fillNode_nbr (n : Nat) (a : FxArr τ) (v x : Nat) :
    (fillNode n a v).1.edges v x = true ↔ a.edges v x = true := by
  rw [fillNode_edges, or_iff_left]
  rintro ⟨c, hc, h⟩
  obtain ⟨⟨_, _, h1⟩, ⟨_, _, h2⟩, _⟩ := (mem_combosOf n a v c).1 hc
  rcases h with h | h
  exacts [h1 h.1.symm, h2 h.1.symm]

/-- after the pass the node's neighbours are pairwise populated -/
theorem fillNode_clique (n : Nat) (a : FxArr τ) (v : Nat) (hs : SymmEdges a) (hr : ReflEdges n a) :
    CliqueAt n (fillNode n a v).1 v := by
  intro x y hx hy hvx hvy
  rw [fillNode_nbr] at hvx hvy
  by_contra hnew
  have hold : a.edges x y = false :=
    Bool.eq_false_iff.2 fun h => hnew (fillNode_mono n a v x y h)
  have hxy : x ≠ y := by
    rintro rfl
    rw [hr x hx] at hold
    cases hold
  have hxv : x ≠ v := by
    rintro rfl
    rw [hvy] at hold
    cases hold
  have hyv : y ≠ v := by
    rintro rfl
    rw [hs, hvx] at hold
    cases hold
  refine hnew ((fillNode_edges n a v x y).2 (Or.inr ?_))
  rcases Nat.lt_or_gt_of_ne hxy with hlt | hgt
  · exact ⟨(x, y), (mem_combosOf n a v _).2 ⟨⟨hx, hvx, hxv⟩, ⟨hy, hvy, hyv⟩, hlt, hold⟩,
      Or.inl ⟨rfl, rfl⟩⟩
  · exact ⟨(y, x), (mem_combosOf n a v _).2 ⟨⟨hy, hvy, hyv⟩, ⟨hx, hvx, hxv⟩, hgt, hs _ _ ▸ hold⟩,
      Or.inr ⟨rfl, rfl⟩⟩

theorem fillNode_strict (n : Nat) (a : FxArr τ) (v : Nat) (h : combosOf n a v ≠ []) :
    edgeCount n a.edges < edgeCount n (fillNode n a v).1.edges := by
  obtain ⟨c, hc⟩ := List.exists_mem_of_ne_nil _ h
  obtain ⟨h1, h2, _, h0⟩ := (mem_combosOf n a v c).1 hc
  exact edgeCount_strict n _ _ (fillNode_mono n a v) c.1 c.2 h1.1 h2.1 h0
    ((fillNode_edges n a v c.1 c.2).2 (Or.inr ⟨c, hc, Or.inl ⟨rfl, rfl⟩⟩))

omit [FxOps τ] in
theorem connected_mono (n : Nat) (a a' : FxArr τ) (hc : Connected n a)
    (hm : ∀ i j, a.edges i j = true → a'.edges i j = true) : Connected n a' := by
  intro S hS
  exact hc S (fun i j hi hj hij => hS i j hi hj (hm i j hij))

theorem clique_mono_nbr (n : Nat) (a : FxArr τ) (v p : Nat) (hp : CliqueAt n a p)
    (hcomb : combosOf n a v = []) : CliqueAt n (fillNode n a v).1 p := by
  rw [fillNode_of_nil n a v hcomb]
  exact hp

/-- a set of currencies closed under the populated pairs stays closed through a node pass -/
theorem fillNode_closed (n : Nat) (a : FxArr τ) (v : Nat) (hv : v < n) (S : Nat → Prop)
    (hS : Closed n a S) : Closed n (fillNode n a v).1 S := by
  intro i j hi hj hij
  rcases (fillNode_edges n a v i j).1 hij with hij | ⟨c, hc, hcc⟩
  · exact hS i j hi hj hij
  · obtain ⟨h1, h2, _⟩ := (mem_combosOf n a v c).1 hc
    have e1 : S v ↔ S c.1 := hS v c.1 hv h1.1 h1.2.1
    have e2 : S v ↔ S c.2 := hS v c.2 hv h2.1 h2.2.1
    rcases hcc with ⟨rfl, rfl⟩ | ⟨rfl, rfl⟩
    exacts [e1.symm.trans e2, e2.symm.trans e1]

theorem lastMaxBy_ne_none (l : List (Nat × Nat)) (h : l ≠ []) : lastMaxBy l ≠ none := by
  cases l with
  | nil => exact absurd rfl h
  | cons y ys =>
    refine List.foldlRecOn (motive := fun acc => acc ≠ none) ys _ (by simp) fun acc hacc b _ => ?_
    cases acc with
    | none => exact absurd rfl hacc
    | some m =>
      simp only
      split <;> simp

/-- how many of the `n` currencies are not in the list of exhausted nodes -/
def navail (n : Nat) (prev : List Nat) : Nat := (List.range n).countP fun i => !prev.contains i

theorem navail_le (n : Nat) (prev : List Nat) : navail n prev ≤ n :=
  List.countP_le_length.trans_eq List.length_range

theorem navail_cons (n : Nat) (prev : List Nat) (node : Nat) (hn : node < n) (hnp : node ∉ prev) :
    navail n (node :: prev) < navail n prev :=
  countP_lt_countP _ _ _ (fun x _ => by simp) node (List.mem_range.2 hn) (by simp)
    (by simpa using hnp)

/-- Completeness: if the populated pairs connect all `n` currencies (symmetric, with the diagonal), the
loop returns a result for every fuel above `(n² − populated)·(n+1) + (not exhausted)`: a pass that
populates nothing exhausts one more node, any other pass raises the populated count. -/
theorem fill_complete (n : Nat) : ∀ (fuel : Nat) (a : FxArr τ) (prev : List Nat),
    SymmEdges a → ReflEdges n a → Connected n a → (∀ p ∈ prev, p < n → CliqueAt n a p) →
    (n * n - edgeCount n a.edges) * (n + 1) + navail n prev < fuel →
    ∃ a', fill n fuel a prev = some a' := by
  intro fuel a prev
  fun_induction fill n fuel a prev with
  | case1 => intro _ _ _ _ h; omega
  | case2 fuel a prev hfull => intro _ _ _ _ _; exact ⟨a, rfl⟩
  | case3 fuel a prev hfull avail hl =>
    -- a node with two unconnected neighbours is not exhausted, so some node is available
    intro hs hr hc hp _
    obtain ⟨v, hv, hvc⟩ := exists_nonclique n a hs hr hc hfull
    refine absurd hl (lastMaxBy_ne_none _ (List.ne_nil_of_mem (a := (rowSum n a.edges v, v)) ?_))
    exact List.mem_map.2 ⟨v, List.mem_filter.2 ⟨List.mem_range.2 hv,
      by simpa using fun hmem => hvc (hp v hmem hv)⟩, rfl⟩
  | case4 fuel a prev hfull avail r node hl a1 hfn ih =>
    -- the pass populated nothing: `node` joins the exhausted list
    intro hs hr hc hp hfuel
    obtain ⟨hnn, hnp⟩ := picked n _ prev _ hl
    have hcomb : combosOf n a node = [] := by
      rw [← List.length_eq_zero_iff, ← fillNode_count, hfn]
    obtain rfl : a = a1 := by rw [← fillNode_of_nil n a node hcomb, hfn]
    have hlt := navail_cons n prev node hnn hnp
    refine ih hs hr hc (fun p hpm hpn => ?_) (by omega)
    rcases List.mem_cons.mp hpm with rfl | hpm
    · have := fillNode_clique n a p hs hr
      rwa [hfn] at this
    · exact hp p hpm hpn
  | case5 fuel a prev hfull avail r node hl a1 counter hfn h0 ih =>
    -- it populated something: the count rises and the exhausted list restarts
    intro hs hr hc hp hfuel
    have hcnt : (fillNode n a node).2 = counter := congrArg Prod.snd hfn
    have hcomb : combosOf n a node ≠ [] := by
      intro h
      rw [← hcnt, fillNode_count, h] at h0
      exact h0 rfl
    have ha1 : (fillNode n a node).1 = a1 := by rw [hfn]
    subst ha1
    have hstrict := fillNode_strict n a node hcomb
    have hle := edgeCount_le n (fillNode n a node).1.edges
    refine ih (fillNode_symm n a node hs) (fun i hi => fillNode_mono n a node i i (hr i hi))
      (connected_mono n a _ hc (fillNode_mono n a node)) (fun p hpm _ => ?_) ?_
    · obtain rfl : p = node := by simpa using hpm
      exact fillNode_clique n a p hs hr
    · have h1 : n * n - edgeCount n (fillNode n a node).1.edges + 1 ≤ n * n - edgeCount n a.edges := by
        omega
      have h3 := Nat.mul_le_mul_right (n + 1) h1
      rw [Nat.add_mul, Nat.one_mul] at h3
      have := navail_le n [node]
      omega

/-- Rejection: if some non-empty proper set of the currencies is closed under the populated pairs, the
loop never returns a result, whatever the fuel. -/
theorem fill_none_of_disconnected (n : Nat) (S : Nat → Prop) (i0 j0 : Nat) (hi0 : i0 < n)
    (hj0 : j0 < n) (hin : S i0) (hout : ¬ S j0) (fuel : Nat) (a : FxArr τ) (prev : List Nat)
    (hS : Closed n a S) : fill n fuel a prev = none := by
  cases h : fill n fuel a prev with
  | none => rfl
  | some a' =>
    obtain ⟨hS', hfull⟩ := fill_inv n (fun b => Closed n b S)
      (fun b node hn hb => fillNode_closed n b node hn S hb) fuel a a' prev hS h
    exact absurd ((hS' i0 j0 hi0 hj0 ((edgeCount_eq_iff n _).1 hfull i0 j0 hi0 hj0)).1 hin) hout

theorem fillFuel_enough (n e k : Nat) (hk : k ≤ n) : (n * n - e) * (n + 1) + k < fillFuel n := by
  unfold fillFuel
  have : (n * n - e) * (n + 1) ≤ n * n * (n + 1) := Nat.mul_le_mul_right _ (Nat.sub_le _ _)
  rw [Nat.add_mul, Nat.one_mul]
  omega

end Graph
end Rateslib
