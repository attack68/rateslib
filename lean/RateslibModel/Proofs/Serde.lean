/-
Codecs: `Lawful enc dec P` (decoding inverts encoding on the values satisfying `P` and consumes exactly what
was written) for little-endian integers, sequences, strings, options and ndarrays, and from these for the
bincode forms of the model's types.
-/
import RateslibModel.Model.Serde
namespace Rateslib.Serde

/-- `dec` inverts `enc` on the values satisfying `P`, consuming exactly what `enc` produced -/
def Lawful {α : Type} (enc : α → Bytes) (dec : Bytes → Option (α × Bytes)) (P : α → Prop) : Prop :=
  ∀ x, P x → ∀ rest, dec (enc x ++ rest) = some (x, rest)

theorem decLE_encLE : ∀ (k n : Nat) (rest : Bytes), n < 256 ^ k →
    decLE k (encLE n k ++ rest) = some (n, rest) := by
  intro k
  induction k with
  | zero => intro n rest h; simp at h; subst h; rfl
  | succ k ih =>
    intro n rest h
    have h2 : n / 256 < 256 ^ k := by
      rw [Nat.pow_succ] at h
      exact Nat.div_lt_of_lt_mul (by rw [Nat.mul_comm]; exact h)
    simp only [encLE, List.cons_append, decLE, ih (n / 256) rest h2]
    have hb : (n % 256).toUInt8.toNat = n % 256 := by
      rw [Nat.toUInt8, UInt8.toNat_ofNat']
      exact Nat.mod_eq_of_lt (Nat.mod_lt _ (by decide))
    rw [hb]
    congr 2
    omega

theorem lawful_u64 : Lawful encU64 decU64 (fun n => n < 2 ^ 64) := by
  intro n h rest
  exact decLE_encLE 8 n rest (by simpa using h)

theorem lawful_u32 : Lawful encU32 decU32 (fun n => n < 2 ^ 32) := by
  intro n h rest
  exact decLE_encLE 4 n rest (by simpa using h)

theorem lawful_u8 : Lawful encU8 decU8 (fun n => n < 2 ^ 8) := by
  intro n h rest
  exact decLE_encLE 1 n rest (by simpa using h)

theorem decN_spec {α : Type} (enc : α → Bytes) (dec : Bytes → Option (α × Bytes)) (P : α → Prop)
    (hl : Lawful enc dec P) : ∀ (l : List α) (rest : Bytes), (∀ x ∈ l, P x) →
      decN dec l.length ((l.map enc).flatten ++ rest) = some (l, rest) := by
  intro l
  induction l with
  | nil => intro rest _; rfl
  | cons x xs ih =>
    intro rest h
    simp only [List.length_cons, List.map_cons, List.flatten_cons, List.append_assoc, decN]
    rw [hl x (h x List.mem_cons_self)]
    simp only
    rw [ih rest (fun y hy => h y (List.mem_cons_of_mem _ hy))]

theorem lawful_seq {α : Type} (enc : α → Bytes) (dec : Bytes → Option (α × Bytes)) (P : α → Prop)
    (hl : Lawful enc dec P) :
    Lawful (encSeq enc) (decSeq dec) (fun l => l.length < 2 ^ 64 ∧ ∀ x ∈ l, P x) := by
  intro l h rest
  unfold encSeq decSeq
  simp only [List.append_assoc, lawful_u64 l.length h.1]
  exact decN_spec enc dec P hl l rest h.2

theorem lawful_str : Lawful encStr decStr (fun s => s.length < 2 ^ 64) := by
  intro s h rest
  unfold encStr decStr
  simp only [List.append_assoc, lawful_u64 s.length h]
  simp

theorem lawful_opt {α : Type} (enc : α → Bytes) (dec : Bytes → Option (α × Bytes)) (P : α → Prop)
    (hl : Lawful enc dec P) :
    Lawful (encOpt enc) (decOpt dec) (fun o => ∀ x, o = some x → P x) := by
  intro o h rest
  cases o with
  | none =>
    unfold encOpt decOpt
    simp only [lawful_u8 0 (by decide : (0:Nat) < 2 ^ 8)]
  | some x =>
    unfold encOpt decOpt
    simp only [List.append_assoc, lawful_u8 1 (by decide : (1:Nat) < 2 ^ 8), hl x (h x rfl)]

def ValidArr1 (a : Arr1) : Prop := a.dim < 2 ^ 64 ∧ a.data.length < 2 ^ 64 ∧ ∀ x ∈ a.data, x < 2 ^ 64
def ValidArr2 (a : Arr2) : Prop :=
  a.d0 < 2 ^ 64 ∧ a.d1 < 2 ^ 64 ∧ a.data.length < 2 ^ 64 ∧ ∀ x ∈ a.data, x < 2 ^ 64

theorem lawful_arr1 : Lawful encArr1 decArr1 ValidArr1 := by
  intro a h rest
  unfold encArr1 decArr1
  simp only [List.append_assoc, lawful_u8 1 (by decide : (1:Nat) < 2 ^ 8), lawful_u64 a.dim h.1,
    lawful_seq encU64 decU64 _ lawful_u64 a.data h.2]

theorem lawful_arr2 : Lawful encArr2 decArr2 ValidArr2 := by
  intro a h rest
  unfold encArr2 decArr2
  simp only [List.append_assoc, lawful_u8 1 (by decide : (1:Nat) < 2 ^ 8), lawful_u64 a.d0 h.1,
    lawful_u64 a.d1 h.2.1, lawful_seq encU64 decU64 _ lawful_u64 a.data h.2.2]

def ValidVars (vs : List Bytes) : Prop := vs.length < 2 ^ 64 ∧ ∀ s ∈ vs, s.length < 2 ^ 64

def ValidDual (d : SDual) : Prop := d.real < 2 ^ 64 ∧ ValidVars d.vars ∧ ValidArr1 d.dual
def ValidDual2 (d : SDual2) : Prop :=
  d.real < 2 ^ 64 ∧ ValidVars d.vars ∧ ValidArr1 d.dual ∧ ValidArr2 d.dual2

theorem lawful_dual : Lawful encDual decDual ValidDual := by
  intro d h rest
  unfold encDual decDual
  simp only [List.append_assoc, lawful_u64 d.real h.1,
    lawful_seq encStr decStr _ lawful_str d.vars h.2.1, lawful_arr1 d.dual h.2.2]

theorem lawful_dual2 : Lawful encDual2 decDual2 ValidDual2 := by
  intro d h rest
  unfold encDual2 decDual2
  simp only [List.append_assoc, lawful_u64 d.real h.1,
    lawful_seq encStr decStr _ lawful_str d.vars h.2.1, lawful_arr1 d.dual h.2.2.1,
    lawful_arr2 d.dual2 h.2.2.2]

def ValidNumber : SNumber → Prop
  | .dual d => ValidDual d
  | .dual2 d => ValidDual2 d
  | .f64 b => b < 2 ^ 64

theorem lawful_number : Lawful encNumber decNumber ValidNumber := by
  intro x h rest
  cases x with
  | dual d =>
    unfold encNumber decNumber
    simp only [List.append_assoc, lawful_u32 0 (by decide : (0:Nat) < 2 ^ 32), lawful_dual d h]
  | dual2 d =>
    unfold encNumber decNumber
    simp only [List.append_assoc, lawful_u32 1 (by decide : (1:Nat) < 2 ^ 32), lawful_dual2 d h]
  | f64 b =>
    unfold encNumber decNumber
    simp only [List.append_assoc, lawful_u32 2 (by decide : (2:Nat) < 2 ^ 32), lawful_u64 b h]

theorem lawful_arr1T {α : Type} (enc : α → Bytes) (dec : Bytes → Option (α × Bytes)) (P : α → Prop)
    (hl : Lawful enc dec P) :
    Lawful (encArr1T enc) (decArr1T dec)
      (fun a => a.dim < 2 ^ 64 ∧ a.data.length < 2 ^ 64 ∧ ∀ x ∈ a.data, P x) := by
  intro a h rest
  unfold encArr1T decArr1T
  simp only [List.append_assoc, lawful_u8 1 (by decide : (1:Nat) < 2 ^ 8), lawful_u64 a.dim h.1,
    lawful_seq enc dec P hl a.data h.2]

def ValidSpline {α : Type} (P : α → Prop) (s : SSpline α) : Prop :=
  s.k < 2 ^ 64 ∧ (s.t.length < 2 ^ 64 ∧ ∀ x ∈ s.t, x < 2 ^ 64) ∧
  (∀ a, s.c = some a → a.dim < 2 ^ 64 ∧ a.data.length < 2 ^ 64 ∧ ∀ x ∈ a.data, P x) ∧ s.n < 2 ^ 64

theorem lawful_spline {α : Type} (enc : α → Bytes) (dec : Bytes → Option (α × Bytes)) (P : α → Prop)
    (hl : Lawful enc dec P) : Lawful (encSpline enc) (decSpline dec) (ValidSpline P) := by
  intro s h rest
  unfold encSpline decSpline
  simp only [List.append_assoc, lawful_u64 s.k h.1,
    lawful_seq encU64 decU64 _ lawful_u64 s.t h.2.1,
    lawful_opt (encArr1T enc) (decArr1T dec) _ (lawful_arr1T enc dec P hl) s.c h.2.2.1,
    lawful_u64 s.n h.2.2.2]

def ValidFXRate (q : SFXRate) : Prop :=
  q.lhs.length < 2 ^ 64 ∧ q.rhs.length < 2 ^ 64 ∧ ValidNumber q.rate ∧
  ∀ s, q.settlement = some s → s.length < 2 ^ 64

theorem lawful_fxrate : Lawful encFXRate decFXRate ValidFXRate := by
  intro q h rest
  unfold encFXRate decFXRate
  simp only [List.append_assoc, lawful_str q.lhs h.1,
    lawful_str q.rhs h.2.1, lawful_number q.rate h.2.2.1,
    lawful_opt encStr decStr _ lawful_str q.settlement h.2.2.2]

def ValidFXRates (f : SFXRates) : Prop :=
  (f.quotes.length < 2 ^ 64 ∧ ∀ q ∈ f.quotes, ValidFXRate q) ∧ ValidVars f.currencies

theorem lawful_fxrates : Lawful encFXRates decFXRates ValidFXRates := by
  intro f h rest
  unfold encFXRates decFXRates
  simp only [List.append_assoc, lawful_seq encFXRate decFXRate _ lawful_fxrate f.quotes h.1,
    lawful_seq encStr decStr _ lawful_str f.currencies h.2]

theorem lawful_nodeVal (kind : Nat) :
    Lawful encNodeVal (decNodeVal kind) (fun v => v.kind = kind ∧ ValidNumber v) := by
  rintro v ⟨rfl, hv⟩ rest
  cases v with
  | f64 b => simp only [SNumber.kind, encNodeVal, decNodeVal, lawful_u64 b hv]
  | dual d => simp only [SNumber.kind, encNodeVal, decNodeVal, lawful_dual d hv]
  | dual2 d => simp only [SNumber.kind, encNodeVal, decNodeVal, lawful_dual2 d hv]

theorem lawful_node (kind : Nat) :
    Lawful encNode (decNode kind) (fun p => p.1 < 2 ^ 64 ∧ p.2.kind = kind ∧ ValidNumber p.2) := by
  intro p h rest
  unfold encNode decNode
  simp only [List.append_assoc, lawful_u64 p.1 h.1, lawful_nodeVal kind p.2 h.2]

def ValidCurve (c : SCurve) : Prop :=
  c.nodesKind < 2 ^ 32 ∧
  (c.nodes.length < 2 ^ 64 ∧ ∀ p ∈ c.nodes, p.1 < 2 ^ 64 ∧ p.2.kind = c.nodesKind ∧ ValidNumber p.2) ∧
  c.interp < 2 ^ 32 ∧ c.id.length < 2 ^ 64 ∧ c.convention < 2 ^ 32 ∧ c.modifier < 2 ^ 32 ∧
  (∀ b, c.indexBase = some b → b < 2 ^ 64) ∧ c.calendar.length < 2 ^ 64

theorem encCurve_eq (c : SCurve) :
    encCurve c = encU32 c.nodesKind ++ encSeq encNode c.nodes ++ encU32 c.interp ++ encStr c.id ++
      encU32 c.convention ++ encU32 c.modifier ++ encOpt encU64 c.indexBase ++ encU32 2 ++
      encStr c.calendar := rfl

theorem lawful_curve : Lawful encCurve decCurve ValidCurve := by
  intro c h rest
  obtain ⟨h1, h2, h3, h4, h5, h6, h7, h8⟩ := h
  rw [encCurve_eq]
  unfold decCurve
  simp only [List.append_assoc, lawful_u32 c.nodesKind h1,
    lawful_seq encNode (decNode c.nodesKind) _ (lawful_node c.nodesKind) c.nodes h2,
    lawful_u32 c.interp h3, lawful_str c.id h4, lawful_u32 c.convention h5, lawful_u32 c.modifier h6,
    lawful_opt encU64 decU64 _ lawful_u64 c.indexBase h7,
    lawful_u32 2 (by decide), lawful_str c.calendar h8]

end Rateslib.Serde
