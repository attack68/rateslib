/-
The float-matrix solver `fdsolve21` is linear in its right-hand side: it commutes with every map of
right-hand-side types that respects the module operations (`fdsolve21_hom`).  Proofs/FLinearInst.lean has
the instances on list-level dual numbers.
-/
import RateslibModel.Model.Linalg
import RateslibModel.Proofs.Basic
namespace Rateslib

/-- a map between two right-hand-side types of the float-matrix solver that respects the module
operations on a set `G` of well-formed elements closed under them -/
structure ModHom {K σ ρ : Type} [ModOps K σ] [ModOps K ρ] (φ : σ → ρ) (G : σ → Prop) : Prop where
  zero : G (ModOps.zero K) ∧ φ (ModOps.zero K) = ModOps.zero K
  add : ∀ a b, G a → G b →
    G (ModOps.add (α := K) a b) ∧ φ (ModOps.add (α := K) a b) = ModOps.add (α := K) (φ a) (φ b)
  sub : ∀ a b, G a → G b →
    G (ModOps.sub (α := K) a b) ∧ φ (ModOps.sub (α := K) a b) = ModOps.sub (α := K) (φ a) (φ b)
  smul : ∀ (c : K) a, G a → G (ModOps.smul c a) ∧ φ (ModOps.smul c a) = ModOps.smul c (φ a)

section
variable {K σ ρ : Type} [LinOps K] [OfNat K 1] [ModOps K σ] [ModOps K ρ]
variable (φ : σ → ρ) (G : σ → Prop)

/-- same matrix, right-hand sides related by `φ` -/
def FRel (s : FSys K σ) (s' : FSys K ρ) : Prop := s.a = s'.a ∧ ∀ i, G (s.b i) ∧ φ (s.b i) = s'.b i

variable {φ G}

omit [LinOps K] [OfNat K 1] [ModOps K σ] [ModOps K ρ] in
theorem frel_swap (s : FSys K σ) (s' : FSys K ρ) (h : FRel φ G s s') (j k : Nat) :
    FRel φ G (fswapRows s j k) (fswapRows s' j k) := by
  refine ⟨by simp only [fswapRows, h.1], fun i => ?_⟩
  simp only [fswapRows]
  split
  · exact h.2 k
  · split
    · exact h.2 j
    · exact h.2 i

omit [OfNat K 1] in
theorem frel_elimRow (H : ModHom (K := K) φ G) (n j : Nat) (s : FSys K σ) (s' : FSys K ρ) (h : FRel φ G s s')
    (l : Nat) : FRel φ G (felimRow n j s l) (felimRow n j s' l) := by
  refine ⟨by simp only [felimRow, h.1], fun i => ?_⟩
  simp only [felimRow, h.1]
  split
  · exact hom_lift₂ H.sub (h.2 l) (hom_lift₁ (H.smul _) (h.2 j))
  · exact h.2 i

theorem frel_elimStep (H : ModHom (K := K) φ G) (n : Nat) (s : FSys K σ) (s' : FSys K ρ) (h : FRel φ G s s')
    (j : Nat) : FRel φ G (felimStep n s j) (felimStep n s' j) := by
  refine List.foldl_rel ?_ fun l _ s s' h => frel_elimRow H n j s s' h l
  rw [h.1]
  split
  · exact frel_swap s s' h _ _
  · exact h

omit [LinOps K] [OfNat K 1] in
theorem fdot_hom (H : ModHom (K := K) φ G) (f : Nat → K) (g : Nat → σ) (g' : Nat → ρ)
    (hg : ∀ i, G (g i) ∧ φ (g i) = g' i) (idx : List Nat) :
    G (fdotOver idx f g) ∧ φ (fdotOver idx f g) = fdotOver idx f g' :=
  List.foldl_rel (r := fun acc acc' => G acc ∧ φ acc = acc') H.zero
    fun m _ _ _ hacc => hom_lift₂ H.add hacc (hom_lift₁ (H.smul (f m)) (hg m))

theorem frel_back (H : ModHom (K := K) φ G) (n : Nat) (s : FSys K σ) (s' : FSys K ρ) (h : FRel φ G s s') :
    ∀ r, G (fbackSubst n s r) ∧ φ (fbackSubst n s r) = fbackSubst n s' r := by
  refine List.foldl_rel (r := fun (x : Nat → σ) (x' : Nat → ρ) => ∀ r, G (x r) ∧ φ (x r) = x' r)
    (fun _ => H.zero) ?_
  intro i _ x x' hx r
  rw [h.1]
  by_cases hr : r = i
  · simp only [if_pos hr]
    exact hom_lift₁ (H.smul _) (hom_lift₂ H.sub (h.2 i) (fdot_hom H _ _ _ hx _))
  · simp only [if_neg hr]
    exact hx r

/-- Solving and then applying `φ` equals applying `φ` to the right-hand side and then solving with the same
matrix. -/
theorem fdsolve21_hom (H : ModHom (K := K) φ G) (n : Nat) (s : FSys K σ) (s' : FSys K ρ)
    (h : FRel φ G s s') : ∀ r, G (fdsolve21 n s r) ∧ φ (fdsolve21 n s r) = fdsolve21 n s' r :=
  frel_back H n _ _ (List.foldl_rel h fun j _ s s' h => frel_elimStep H n s s' h j)

/-- the same for a right-hand side mapped entry by entry -/
theorem fdsolve21_map (H : ModHom (K := K) φ G) (n : Nat) (a : Nat → Nat → K) (b : Nat → σ)
    (hb : ∀ i, G (b i)) (r : Nat) :
    G (fdsolve21 n ⟨a, b⟩ r) ∧ φ (fdsolve21 n ⟨a, b⟩ r) = fdsolve21 n ⟨a, fun i => φ (b i)⟩ r :=
  fdsolve21_hom H n _ _ ⟨rfl, fun i => ⟨hb i, rfl⟩⟩ r

end
end Rateslib
