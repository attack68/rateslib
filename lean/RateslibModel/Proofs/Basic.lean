/-
General lemmas that several parts of the development share (no model imports): how a field of one of the
homomorphism structures (`ModHom`, `LinHom`, `NumOpsHom`) is applied to arguments whose images are known
(`hom_lift₂`, `hom_lift₁`), `List.getD` through `map`, and `List.mapM` in `Option`.
-/
namespace Rateslib

/-- a binary operation that `φ` respects on `G`, applied to arguments with known images `a'`, `b'` -/
theorem hom_lift₂ {σ ρ : Type} {φ : σ → ρ} {G : σ → Prop} {op : σ → σ → σ} {op' : ρ → ρ → ρ}
    (hop : ∀ a b, G a → G b → G (op a b) ∧ φ (op a b) = op' (φ a) (φ b)) {a b : σ} {a' b' : ρ}
    (ha : G a ∧ φ a = a') (hb : G b ∧ φ b = b') : G (op a b) ∧ φ (op a b) = op' a' b' :=
  ha.2 ▸ hb.2 ▸ hop a b ha.1 hb.1

/-- `hom_lift₂` for a unary operation (the scaling by a fixed scalar, `log`, `exp`) -/
theorem hom_lift₁ {σ ρ : Type} {φ : σ → ρ} {G : σ → Prop} {op : σ → σ} {op' : ρ → ρ}
    (hop : ∀ a, G a → G (op a) ∧ φ (op a) = op' (φ a)) {a : σ} {a' : ρ} (ha : G a ∧ φ a = a') :
    G (op a) ∧ φ (op a) = op' a' :=
  ha.2 ▸ hop a ha.1

theorem getD_map_hom {σ ρ : Type} (φ : σ → ρ) (z : σ) (z' : ρ) (hz : φ z = z') (l : List σ) (i : Nat) :
    (l.map φ).getD i z' = φ (l.getD i z) := by
  rw [List.getD_eq_getElem?_getD, List.getElem?_map, ← hz, Option.getD_map, List.getD_eq_getElem?_getD]

theorem getD_forall {σ : Type} {P : σ → Prop} {l : List σ} {z : σ} (hz : P z) (h : ∀ d ∈ l, P d) (i : Nat) :
    P (l.getD i z) := by
  rw [List.getD_eq_getElem?_getD]
  cases hi : l[i]? with
  | none => exact hz
  | some d => exact h d (List.mem_of_getElem? hi)

theorem getD_map_range {σ : Type} (f : Nat → σ) (n i : Nat) (z : σ) :
    ((List.range n).map f).getD i z = if i < n then f i else z := by
  simp only [List.getD_eq_getElem?_getD, List.getElem?_map]
  by_cases hi : i < n
  · simp [hi]
  · simp [hi]

theorem mapM_eq_some_iff {α β : Type} (f : α → Option β) : ∀ (l : List α) (r : List β),
    l.mapM f = some r ↔ l.map f = r.map some := by
  intro l
  induction l with
  | nil => intro r; cases r <;> simp
  | cons a as ih =>
    intro r
    cases r with
    | nil => rw [List.mapM_cons]; cases f a <;> cases as.mapM f <;> simp
    | cons c cs =>
      rw [List.mapM_cons, List.map_cons, List.map_cons, List.cons.injEq, ← ih cs]
      cases f a <;> cases as.mapM f <;> simp

theorem mapM_of_forall {α β : Type} (f : α → Option β) (g : α → β) (l : List α)
    (h : ∀ a ∈ l, f a = some (g a)) : l.mapM f = some (l.map g) := by
  rw [mapM_eq_some_iff, List.map_map]
  exact List.map_congr_left h

theorem mapM_of_forall_id {α : Type} (f : α → Option α) (l : List α) (h : ∀ a ∈ l, f a = some a) :
    l.mapM f = some l :=
  (mapM_of_forall f id l h).trans (by rw [List.map_id])

theorem length_mapM_some {α β : Type} (f : α → Option β) (xs : List α) (ys : List β)
    (h : xs.mapM f = some ys) : ys.length = xs.length := by
  simpa using (congrArg List.length ((mapM_eq_some_iff f xs ys).mp h)).symm

/-- what `mapM f` returns, `f` returned: a guarantee of `f`'s results holds of every element -/
theorem mapM_forall {α β : Type} {f : α → Option β} {P : β → Prop} (hf : ∀ a b, f a = some b → P b)
    {l : List α} {r : List β} (h : l.mapM f = some r) : ∀ x ∈ r, P x := by
  intro x hx
  have : some x ∈ l.map f := (mapM_eq_some_iff f l r).mp h ▸ List.mem_map_of_mem hx
  obtain ⟨a, _, ha⟩ := List.mem_map.mp this
  exact hf a x ha

end Rateslib
