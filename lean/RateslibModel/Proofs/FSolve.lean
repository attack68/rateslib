/-
Over a field the float-matrix solver `fdsolve21` (x[i] = (1/u_ii)·v) computes the same vector as the
generic solver `dsolve21` (x[i] = v/u_ii): `fdsolve21_eq`.
-/
import RateslibModel.Proofs.Gauss
namespace Rateslib

variable {K : Type} [Field K] (ge : K → K → Bool)

@[reducible] def fieldModOps : ModOps K K := ⟨(· * ·), (· - ·), (· + ·), 0⟩

def toSys (s : FSys K K) : Sys K := ⟨s.a, s.b⟩

theorem felimRow_toSys (n j : Nat) (s : FSys K K) (l : Nat) :
    toSys (@felimRow K K (ringLinOps ge) fieldModOps n j s l)
      = @elimRow K (ringLinOps ge) n j (toSys s) l := rfl

theorem fswap_toSys (s : FSys K K) (j k : Nat) : toSys (fswapRows s j k) = swapRows (toSys s) j k := rfl

theorem felimStep_toSys (n : Nat) (s : FSys K K) (j : Nat) :
    toSys (@felimStep K K (ringLinOps ge) fieldModOps n s j) = @elimStep K (ringLinOps ge) n (toSys s) j := by
  unfold felimStep elimStep
  -- `toSys` commutes with the fold; what remains is the `if` choosing the swap
  rw [← List.foldl_hom toSys fun s l => (felimRow_toSys ge n j s l).symm]
  congr 1
  exact apply_ite toSys _ _ _

theorem fdot_eq (idx : List Nat) (f g : Nat → K) :
    @fdotOver K K fieldModOps idx f g = @dotOver K (ringLinOps ge) idx f g := rfl

theorem fback_eq (n : Nat) (s : FSys K K) :
    @fbackSubst K K (ringLinOps ge) fieldModOps _ n s = @backSubst K (ringLinOps ge) n (toSys s) := by
  unfold fbackSubst backSubst
  congr 1
  funext x i
  funext r
  simp only [toSys, fdot_eq ge, lo_sub, lo_div]
  split
  · show (1 : K) / s.a i i * _ = _ / s.a i i
    rw [div_mul_eq_mul_div, one_mul]
    rfl
  · rfl

theorem fdsolve21_eq (n : Nat) (s : FSys K K) :
    @fdsolve21 K K (ringLinOps ge) fieldModOps _ n s = @dsolve21 K (ringLinOps ge) n (toSys s) := by
  unfold fdsolve21 dsolve21 fforwardElim forwardElim
  rw [fback_eq, ← List.foldl_hom toSys fun s j => (felimStep_toSys ge n s j).symm]

end Rateslib
