/-
Name-indexed semantics of second-order dual numbers: `den d n` (derivative by name), `den2 d n w` (stored,
i.e. half, second derivative by pair of names) and the shape invariant `WF`; alignment and `+`, `−`, `×`, `==`
act name by name whatever the stored layout.  As at first order, every proof about an operation goes through
the normal form by names (`Dual2.ofFun`).
-/
import RateslibModel.Proofs.DualOps
namespace Rateslib

section Lookup2
variable {α : Type} [OfNat α 0]

/-- an `k × k` matrix stored as a list of rows -/
def MShape (k : Nat) (m : List (List α)) : Prop := m.length = k ∧ ∀ r ∈ m, r.length = k

theorem lookup2_not_mem_left (vars : List String) (m : List (List α)) (n w : String) (h : n ∉ vars) :
    lookup2OrZero vars m n w = 0 := by
  unfold lookup2OrZero
  rw [List.idxOf?_eq_none_iff.2 h]

theorem lookup2_not_mem_right (vars : List String) (m : List (List α)) (n w : String) (h : w ∉ vars) :
    lookup2OrZero vars m n w = 0 := by
  unfold lookup2OrZero
  rw [List.idxOf?_eq_none_iff.2 h]
  cases vars.idxOf? n <;> rfl

/-- looking a pair of names up in a freshly re-indexed matrix returns the function value, 0 unless both are on
the list -/
theorem L2_names (nv : List String) (f : String → String → α) (n w : String) :
    lookup2OrZero nv (nv.map (fun v => nv.map (fun u => f v u))) n w
      = if n ∈ nv ∧ w ∈ nv then f n w else 0 := by
  unfold lookup2OrZero
  cases hn : nv.idxOf? n with
  | none => rw [if_neg (fun h => List.idxOf?_eq_none_iff.1 hn h.1)]
  | some i =>
    cases hw : nv.idxOf? w with
    | none => rw [if_neg (fun h => List.idxOf?_eq_none_iff.1 hw h.2)]
    | some j =>
      obtain ⟨hi, h1, _⟩ := List.idxOf?_eq_some_iff.1 hn
      obtain ⟨hj, h2, _⟩ := List.idxOf?_eq_some_iff.1 hw
      rw [if_pos ⟨h1 ▸ List.getElem_mem hi, h2 ▸ List.getElem_mem hj⟩]
      simp [List.getD_eq_getElem?_getD, List.getElem?_eq_getElem hi, List.getElem?_eq_getElem hj, h1, h2]

end Lookup2

section Shape
variable {α : Type}

theorem mshape_map_map {β γ : Type} (l : List β) (l' : List γ) (f : β → γ → α) (h : l'.length = l.length) :
    MShape l.length (l.map (fun x => l'.map (f x))) := by
  refine ⟨by simp, ?_⟩
  intro r hr
  simp only [List.mem_map] at hr
  obtain ⟨x, _, rfl⟩ := hr
  simp [h]

/-- the rows `Dual2::try_new` cuts out of a flat Hessian of `n * n` entries: `n` rows of `n` -/
theorem reshape_shape (n : Nat) (flat : List α) (h : flat.length = n * n) :
    MShape n (Dual2.reshape n flat) := by
  unfold Dual2.reshape
  refine ⟨by simp, ?_⟩
  intro row hrow
  simp only [List.mem_map, List.mem_range] at hrow
  obtain ⟨i, hi, rfl⟩ := hrow
  -- row `i` starts at `i * n`, and `(i + 1) * n ≤ n * n` entries are there
  have := Nat.mul_le_mul_right n (Nat.succ_le_of_lt hi)
  rw [Nat.succ_mul] at this
  rw [List.length_take, List.length_drop, h]
  omega

end Shape

section Maps2
variable {α : Type} [CommRing α] (vs : List String)

theorem madd_map (h h' : String → String → α) :
    madd (vs.map fun v => vs.map (h v)) (vs.map fun v => vs.map (h' v))
      = vs.map fun v => vs.map fun w => h v w + h' v w := by
  unfold madd
  rw [zipWith_map_same]
  simp only [vadd_map]

theorem msub_map (h h' : String → String → α) :
    msub (vs.map fun v => vs.map (h v)) (vs.map fun v => vs.map (h' v))
      = vs.map fun v => vs.map fun w => h v w - h' v w := by
  unfold msub
  rw [zipWith_map_same]
  simp only [vsub_map]

theorem mscaleL_map (s : α) (h : String → String → α) :
    mscaleL s (vs.map fun v => vs.map (h v)) = vs.map fun v => vs.map fun w => s * h v w := by
  unfold mscaleL
  rw [List.map_map]
  simp only [Function.comp_def, vscaleL_map]

theorem mscaleR_map (s : α) (h : String → String → α) :
    mscaleR (vs.map fun v => vs.map (h v)) s = vs.map fun v => vs.map fun w => h v w * s := by
  unfold mscaleR
  rw [List.map_map]
  simp only [Function.comp_def, vscaleR_map]

theorem mneg_map (h : String → String → α) :
    mneg (vs.map fun v => vs.map (h v)) = vs.map fun v => vs.map fun w => - h v w := by
  unfold mneg
  rw [List.map_map]
  simp only [Function.comp_def, vneg_map]

theorem outer_map (f g : String → α) :
    outer (vs.map f) (vs.map g) = vs.map fun v => vs.map fun w => f v * g w := by
  unfold outer
  simp only [List.map_map, Function.comp_def]

/-- the row count is given as `Dual2.mul` gives it: the length of a gradient over `vs` -/
theorem transposeM_map (f : String → α) (h : String → String → α) :
    transposeM (vs.map f).length (vs.map fun v => vs.map (h v))
      = vs.map fun w => vs.map fun v => h v w := by
  unfold transposeM
  apply List.ext_getElem (by simp)
  intro j h1 h2
  have hj : j < vs.length := by simpa using h2
  simp [List.getD_eq_getElem?_getD, List.getElem?_eq_getElem hj]

end Maps2

namespace Dual2
variable {α : Type}

/-- shape invariant of a second-order number -/
def WF (d : Dual2 α) : Prop :=
  d.vars.Nodup ∧ d.dual.length = d.vars.length ∧ d.dual2.length = d.vars.length ∧
    ∀ r ∈ d.dual2, r.length = d.vars.length

theorem WF.mshape {d : Dual2 α} (h : d.WF) : MShape d.vars.length d.dual2 := h.2.2

variable [OfNat α 0]

/-- first and (stored, i.e. half) second derivative by NAME -/
def den (d : Dual2 α) (n : String) : α := lookupOrZero d.vars d.dual n
def den2 (d : Dual2 α) (n m : String) : α := lookup2OrZero d.vars d.dual2 n m

theorem den_not_mem (d : Dual2 α) (n : String) (h : n ∉ d.vars) : den d n = 0 := lookup_not_mem _ _ _ h

theorem den2_not_mem (d : Dual2 α) (n w : String) (h : ¬(n ∈ d.vars ∧ w ∈ d.vars)) : den2 d n w = 0 := by
  by_cases hn : n ∈ d.vars
  · exact lookup2_not_mem_right _ _ _ _ (fun hw => h ⟨hn, hw⟩)
  · exact lookup2_not_mem_left _ _ _ _ hn

theorem den2_idx (d : Dual2 α) (h1 : d.vars.Nodup) (i j : Nat) (hi : i < d.vars.length)
    (hj : j < d.vars.length) :
    den2 d d.vars[i] d.vars[j] = (d.dual2.getD i []).getD j 0 := by
  unfold Dual2.den2 lookup2OrZero
  rw [idxOf_nodup d.vars h1 i hi, idxOf_nodup d.vars h1 j hj]

theorem dual_eq_map_den (d : Dual2 α) (h : d.WF) : d.dual = d.vars.map (den d) :=
  Dual.dual_eq_map_den (Dual.ofDual2 d) ⟨h.1, h.2.1⟩

theorem dual2_eq_map_den2 (d : Dual2 α) (h : d.WF) :
    d.dual2 = d.vars.map (fun v => d.vars.map (fun w => den2 d v w)) := by
  obtain ⟨h1, _, h3, h4⟩ := h
  apply List.ext_getElem (by simp [h3])
  intro i hi1 hi2
  have hi : i < d.vars.length := by simpa using hi2
  rw [List.getElem_map]
  have hrow : (d.dual2[i]).length = d.vars.length := h4 _ (List.getElem_mem hi1)
  apply List.ext_getElem (by simp [hrow])
  intro j hj1 hj2
  have hj : j < d.vars.length := by simpa using hj2
  rw [List.getElem_map, den2_idx d h1 i j hi hj]
  simp only [List.getD_eq_getElem?_getD, List.getElem?_eq_getElem hi1, Option.getD_some,
    List.getElem?_eq_getElem hj1]

/-- the number with value `r` whose derivative by the name `n` of `vs` is `g n` and whose (half) second
derivative by the names `n`, `w` of `vs` is `h n w` -/
def ofFun (r : α) (vs : List String) (g : String → α) (h : String → String → α) : Dual2 α :=
  ⟨r, vs, vs.map g, vs.map fun v => vs.map (h v)⟩

omit [OfNat α 0] in
theorem ofFun_wf (r : α) (vs : List String) (g : String → α) (h : String → String → α) (hn : vs.Nodup) :
    (ofFun r vs g h).WF :=
  ⟨hn, List.length_map _, (mshape_map_map vs vs h rfl).1, (mshape_map_map vs vs h rfl).2⟩

theorem eq_ofFun (d : Dual2 α) (hd : d.WF) : d = ofFun d.real d.vars (den d) (den2 d) := by
  have h1 := dual_eq_map_den d hd
  have h2 := dual2_eq_map_den2 d hd
  cases d
  simp only [ofFun] at *
  congr

omit [OfNat α 0] in
theorem ofFun_congr (r : α) (vs : List String) {g g' : String → α} {h h' : String → String → α}
    (hg : ∀ n, g n = g' n) (hh : ∀ n w, h n w = h' n w) : ofFun r vs g h = ofFun r vs g' h' := by
  rw [funext hg, funext fun n => funext (hh n)]

theorem den_ofFun (r : α) (vs : List String) (g : String → α) (h : String → String → α) (n : String) :
    den (ofFun r vs g h) n = if n ∈ vs then g n else 0 := L1_names vs g n

theorem den2_ofFun (r : α) (vs : List String) (g : String → α) (h : String → String → α) (n w : String) :
    den2 (ofFun r vs g h) n w = if n ∈ vs ∧ w ∈ vs then h n w else 0 := L2_names vs h n w

/-- when the entries vanish off the list the normal form reads back as the functions themselves -/
theorem den_ofFun_off {r : α} {vs : List String} {g : String → α} {h : String → String → α}
    (hg : ∀ n, n ∉ vs → g n = 0) (n : String) : den (ofFun r vs g h) n = g n := by
  rw [den_ofFun]
  split_ifs with hn
  exacts [rfl, (hg n hn).symm]

theorem den2_ofFun_off {r : α} {vs : List String} {g : String → α} {h : String → String → α}
    (hh : ∀ n w, ¬(n ∈ vs ∧ w ∈ vs) → h n w = 0) (n w : String) : den2 (ofFun r vs g h) n w = h n w := by
  rw [den2_ofFun]
  split_ifs with hn
  exacts [rfl, (hh n w hn).symm]

section Off
variable {cv : List String} {a : Dual2 α} (ha : ∀ n ∈ a.vars, n ∈ cv)
include ha

/-- off any list `cv` holding the number's names (the common list of `aligned_eq`) its derivatives vanish -/
theorem den_off {n : String} (h : n ∉ cv) : den a n = 0 := den_not_mem a n (fun h' => h (ha n h'))

/-- …and its second derivatives as soon as ONE of the two names is off `cv` -/
theorem den2_off {n w : String} (h : ¬(n ∈ cv ∧ w ∈ cv)) : den2 a n w = 0 :=
  den2_not_mem a n w (fun h' => h ⟨ha n h'.1, ha w h'.2⟩)

end Off

theorem new_eq_ofFun [OfNat α 1] (f : α) (vs : List String) :
    Dual2.new f vs = ofFun f (dedup vs) (fun _ => 1) (fun _ _ => 0) := by
  simp only [Dual2.new, ofFun, onesV, zerosM, zerosV, List.map_const']

theorem new_wf [OfNat α 1] (real : α) (vars : List String) : (Dual2.new real vars).WF :=
  new_eq_ofFun real vars ▸ ofFun_wf _ _ _ _ (nodup_dedup vars)

theorem den_new [OfNat α 1] (f : α) (vs : List String) (v : String) :
    den (Dual2.new f vs) v = if v ∈ vs then 1 else 0 := by
  rw [new_eq_ofFun, den_ofFun]
  simp only [mem_dedup]

theorem den2_new [OfNat α 1] (f : α) (vs : List String) (v w : String) :
    den2 (Dual2.new f vs) v w = 0 := by
  rw [new_eq_ofFun, den2_ofFun, ite_self]

/-- `Dual.toNewVars_cmp_eq` with the second derivatives by pair of names alongside -/
theorem toNewVars_cmp_eq (d : Dual2 α) (nv : List String) (hd : d.WF) :
    d.toNewVars nv (varsCmp false d.vars nv) = ofFun d.real nv (den d) (den2 d) := by
  have hc := varsCmp_spec false d.vars nv
  cases hs : varsCmp false d.vars nv <;> rw [hs] at hc
  · cases hc          -- arcEq: not reached, `hc` reads `false = true`
  · subst hc          -- valEq: equal lists, the number is kept, and it is in normal form already
    exact eq_ofFun d hd
  all_goals rfl       -- the three re-indexing states build the normal form by definition

theorem aligned_real (p : Bool) (a b : Dual2 α) :
    (aligned p a b).1.real = a.real ∧ (aligned p a b).2.real = b.real := by
  unfold aligned
  cases varsCmp p a.vars b.vars <;> exact ⟨rfl, rfl⟩

/-- `Dual.aligned_eq` with the second derivatives by pair of names alongside -/
theorem aligned_eq (p : Bool) (a b : Dual2 α) (ha : a.WF) (hb : b.WF) (hp : p = true → a.vars = b.vars) :
    ∃ cv : List String, cv.Nodup ∧ (∀ n, n ∈ cv ↔ n ∈ a.vars ∨ n ∈ b.vars) ∧
      aligned p a b = (ofFun a.real cv (den a) (den2 a), ofFun b.real cv (den b) (den2 b)) := by
  have same : a.vars = b.vars → ∃ cv : List String, cv.Nodup ∧ (∀ n, n ∈ cv ↔ n ∈ a.vars ∨ n ∈ b.vars) ∧
      (a, b) = (ofFun a.real cv (den a) (den2 a), ofFun b.real cv (den b) (den2 b)) := fun hv =>
    ⟨a.vars, ha.1, fun n => by simp [hv], by rw [← eq_ofFun a ha, hv, ← eq_ofFun b hb]⟩
  have hc := varsCmp_spec p a.vars b.vars
  unfold aligned
  cases hs : varsCmp p a.vars b.vars <;> rw [hs] at hc <;> simp only [toUnionVars]
  · -- arcEq
    exact same (hp hc)
  · -- valEq
    exact same hc
  · -- superset: b is re-indexed onto a's list
    refine ⟨a.vars, ha.1, fun n => ⟨Or.inl, Or.rec id (hc n)⟩, ?_⟩
    rw [← eq_ofFun a ha]
    rfl
  · -- subset
    refine ⟨b.vars, hb.1, fun n => ⟨Or.inr, Or.rec (hc n) id⟩, ?_⟩
    rw [← eq_ofFun b hb]
    rfl
  · -- difference: both onto the union
    exact ⟨_, nodup_unionVars _ _ ha.1 hb.1, mem_unionVars _ _, rfl⟩

theorem aligned_ptr_irrelevant (a b : Dual2 α) (h : a.vars = b.vars) :
    aligned true a b = aligned false a b := by
  unfold aligned varsCmp
  simp [h]

end Dual2

namespace Dual2
variable {α : Type} [CommRing α] [Div α]

/-- as `Dual.OpSpec`, with the (half) second derivative `fh n w` by the pair of names `n`, `w` -/
structure OpSpec (a b r : Dual2 α) (fr : α) (fd : String → α) (fh : String → String → α) : Prop where
  wf : r.WF
  mem : ∀ n, n ∈ r.vars ↔ n ∈ a.vars ∨ n ∈ b.vars
  real : r.real = fr
  den : ∀ n, Dual2.den r n = fd n
  den2 : ∀ n w, Dual2.den2 r n w = fh n w

omit [Div α] in
/-- the cross term of the product rule vanishes off the common list: one of its two factors does -/
theorem den_mul_den_off {cv : List String} {a b : Dual2 α} (ha : ∀ n ∈ a.vars, n ∈ cv)
    (hb : ∀ n ∈ b.vars, n ∈ cv) {n w : String} (h : ¬(n ∈ cv ∧ w ∈ cv)) : den a n * den b w = 0 := by
  by_cases hn : n ∈ cv
  · rw [den_off hb (fun hw => h ⟨hn, hw⟩), mul_zero]
  · rw [den_off ha hn, zero_mul]

omit [Div α] in
/-- A result in normal form on the common list whose entries vanish wherever the operands' entries (and
hence the products of their first derivatives) vanish: off the common list they all do. -/
theorem OpSpec.of_ofFun {a b : Dual2 α} {cv : List String} {fr : α} {G : String → α}
    {H : String → String → α} (hn : cv.Nodup) (hm : ∀ n, n ∈ cv ↔ n ∈ a.vars ∨ n ∈ b.vars)
    (hG : ∀ n, Dual2.den a n = 0 → Dual2.den b n = 0 → G n = 0)
    (hH : ∀ n w, Dual2.den2 a n w = 0 → Dual2.den2 b n w = 0 → Dual2.den a n * Dual2.den b w = 0 →
      Dual2.den a w * Dual2.den b n = 0 → H n w = 0) :
    OpSpec a b (ofFun fr cv G H) fr G H :=
  have sa : ∀ n ∈ a.vars, n ∈ cv := fun n h => (hm n).2 (Or.inl h)
  have sb : ∀ n ∈ b.vars, n ∈ cv := fun n h => (hm n).2 (Or.inr h)
  ⟨ofFun_wf _ _ _ _ hn, hm, rfl, den_ofFun_off fun n h => hG n (den_off sa h) (den_off sb h),
    den2_ofFun_off fun n w h => hH n w (den2_off sa h) (den2_off sb h) (den_mul_den_off sa sb h)
      (den_mul_den_off sa sb fun h' => h h'.symm)⟩

theorem add_spec (p : Bool) (a b : Dual2 α) (ha : a.WF) (hb : b.WF) (hp : p = true → a.vars = b.vars) :
    OpSpec a b (add p a b) (a.real + b.real) (fun n => den a n + den b n)
      (fun n w => den2 a n w + den2 b n w) := by
  obtain ⟨cv, hn, hm, hal⟩ := aligned_eq p a b ha hb hp
  simp only [add, hal, ofFun, vadd_map, madd_map]
  exact .of_ofFun hn hm (fun n h1 h2 => by rw [h1, h2, add_zero])
    (fun n w h1 h2 _ _ => by rw [h1, h2, add_zero])

theorem sub_spec (p : Bool) (a b : Dual2 α) (ha : a.WF) (hb : b.WF) (hp : p = true → a.vars = b.vars) :
    OpSpec a b (sub p a b) (a.real - b.real) (fun n => den a n - den b n)
      (fun n w => den2 a n w - den2 b n w) := by
  obtain ⟨cv, hn, hm, hal⟩ := aligned_eq p a b ha hb hp
  simp only [sub, hal, ofFun, vsub_map, msub_map]
  exact .of_ofFun hn hm (fun n h1 h2 => by rw [h1, h2, sub_zero])
    (fun n w h1 h2 _ _ => by rw [h1, h2, sub_zero])

theorem mul_spec (p : Bool) (a b : Dual2 α) (ha : a.WF) (hb : b.WF) (hp : p = true → a.vars = b.vars) :
    OpSpec a b (mul p a b) (a.real * b.real)
      (fun n => den a n * b.real + den b n * a.real)
      (fun n w => den2 a n w * b.real + den2 b n w * a.real
        + half * (den a n * den b w + den a w * den b n)) := by
  obtain ⟨cv, hn, hm, hal⟩ := aligned_eq p a b ha hb hp
  simp only [mul, hal, ofFun, vadd_map, vscaleR_map, madd_map, mscaleR_map, mscaleL_map, outer_map,
    transposeM_map]
  refine .of_ofFun hn hm (fun n h1 h2 => ?_) (fun n w h1 h2 h3 h4 => ?_)
  · rw [h1, h2, zero_mul, zero_mul, add_zero]
  · rw [h1, h2, h3, h4, zero_mul, zero_mul, add_zero, mul_zero, add_zero]

end Dual2

namespace Dual2
variable {α : Type} [CommRing α]

theorem map_den_eq_iff {cv : List String} {a b : Dual2 α} (sa : ∀ n ∈ a.vars, n ∈ cv)
    (sb : ∀ n ∈ b.vars, n ∈ cv) : cv.map (den a) = cv.map (den b) ↔ ∀ n, den a n = den b n :=
  Dual.map_den_eq_iff (a := Dual.ofDual2 a) (b := Dual.ofDual2 b) sa sb

theorem map_den2_eq_iff {cv : List String} {a b : Dual2 α} (sa : ∀ n ∈ a.vars, n ∈ cv)
    (sb : ∀ n ∈ b.vars, n ∈ cv) :
    (cv.map fun v => cv.map (den2 a v)) = (cv.map fun v => cv.map (den2 b v)) ↔
      ∀ n w, den2 a n w = den2 b n w := by
  simp only [List.map_inj_left]
  refine ⟨fun h n w => ?_, fun h n _ w _ => h n w⟩
  by_cases hn : n ∈ cv ∧ w ∈ cv
  · exact h n hn.1 w hn.2
  · rw [den2_off sa hn, den2_off sb hn]

/-- equality treats a missing variable and zero derivatives as the same thing -/
theorem eq_spec [Transc α] [LawfulEqb α] (p : Bool) (a b : Dual2 α) (ha : a.WF) (hb : b.WF)
    (hp : p = true → a.vars = b.vars) :
    eq p a b = true ↔
      (a.real = b.real ∧ (∀ n, den a n = den b n) ∧ ∀ n w, den2 a n w = den2 b n w) := by
  obtain ⟨cv, _, hm, hal⟩ := aligned_eq p a b ha hb hp
  have sa : ∀ n ∈ a.vars, n ∈ cv := fun n h => (hm n).2 (Or.inl h)
  have sb : ∀ n ∈ b.vars, n ∈ cv := fun n h => (hm n).2 (Or.inr h)
  have hfl : (cv.map fun v => cv.map (den2 a v)).flatten.length
      = (cv.map fun v => cv.map (den2 b v)).flatten.length := by
    simp [List.length_flatten, Function.comp_def]
  have hinj : (cv.map fun v => cv.map (den2 a v)).flatten = (cv.map fun v => cv.map (den2 b v)).flatten ↔
      (cv.map fun v => cv.map (den2 a v)) = (cv.map fun v => cv.map (den2 b v)) := by
    rw [List.eq_iff_flatten_eq, List.map_map, List.map_map]
    simp only [Function.comp_def, List.length_map, and_true]
  unfold eq
  split_ifs with hr
  · -- values differ: `eq` answers false and the first conjunct fails
    simpa [← LawfulEqb.eqb_iff] using fun h => absurd h (by simpa using hr)
  · -- as at first order; the Hessians are compared flattened, which for equal shapes is the same (`hinj`)
    simp only [hal, ofFun, List.length_map, hfl, beq_self_eq_true, Bool.true_and, Bool.and_true,
      Bool.and_eq_true,
      Dual.zipWith_eqb_all _ _ ((List.length_map _).trans (List.length_map (f := den b)).symm),
      Dual.zipWith_eqb_all _ _ hfl, hinj, map_den_eq_iff sa sb, map_den2_eq_iff sa sb,
      ← LawfulEqb.eqb_iff a.real, iff_and_self]
    -- `iff_and_self` leaves: lists agree → `a.real = b.real`, which holds here (`hr`)
    exact fun _ => by simpa using hr

/-- the Hessian read-back doubles the Hessian of the number re-indexed onto the list asked for -/
theorem gradient2_eq_toNewVars (d : Dual2 α) (vs : List String) :
    d.gradient2 vs = mscaleL 2 (d.toNewVars (dedup vs) (varsCmp false d.vars (dedup vs))).dual2 := by
  unfold gradient2
  simp only
  cases varsCmp false d.vars (dedup vs) <;> rfl

end Dual2

/-! The rest of this file is not used by the theorems of the development, which go through the normal forms
(`eq_ofFun`, `aligned_eq`, `toNewVars_cmp_eq`): look-up through `map`, `zipWith` and `outer`, shapes, the
model's array helpers unfolded, and re-indexing and alignment stated fact by fact. -/

section Lookup2
variable {α : Type} [OfNat α 0]

/-- equal lengths: an index is in range of both lists or of neither, and out of range the left side reads 0,
the right `f d d` -/
theorem getD_zipWith' {β : Type} (l1 l2 : List β) (f : β → β → α) (d : β) (hf : f d d = 0)
    (h : l1.length = l2.length) (i : Nat) :
    (List.zipWith f l1 l2).getD i 0 = f (l1.getD i d) (l2.getD i d) := by
  simp only [List.getD_eq_getElem?_getD, List.getElem?_zipWith]
  by_cases hi : i < l1.length
  · simp [List.getElem?_eq_getElem hi, List.getElem?_eq_getElem (h ▸ hi)]
  · simp [List.getElem?_eq_none (Nat.le_of_not_lt hi), List.getElem?_eq_none (h ▸ Nat.le_of_not_lt hi), hf]

/-- `L1_map` for a matrix: look-up by a pair of names commutes with an entrywise map that fixes 0 -/
theorem L2_map (vars : List String) (m : List (List α)) (g : α → α) (hg : g 0 = 0) (n w : String) :
    lookup2OrZero vars (m.map (fun r => r.map g)) n w = g (lookup2OrZero vars m n w) := by
  unfold lookup2OrZero
  cases vars.idxOf? n <;> cases vars.idxOf? w <;> simp only [hg]
  -- a missing name reads `g 0 = 0` on both sides; left: both found, at `i` and `j`
  rename_i i j
  rw [getD_map_hom (List.map g) [] [] rfl m i, getD_map_hom g 0 0 hg (m.getD i []) j]

/-- look-up by a pair of names through an entrywise combination `f`, `f 0 0 = 0`, of two matrices of one
shape -/
theorem L2_zip (vars : List String) (m1 m2 : List (List α)) (f : α → α → α) (hf : f 0 0 = 0) {k : Nat}
    (h1 : MShape k m1) (h2 : MShape k m2) (n w : String) :
    lookup2OrZero vars (List.zipWith (List.zipWith f) m1 m2) n w
      = f (lookup2OrZero vars m1 n w) (lookup2OrZero vars m2 n w) := by
  unfold lookup2OrZero
  cases vars.idxOf? n <;> cases vars.idxOf? w <;> simp only [hf]
  -- a missing name reads `f 0 0 = 0` on both sides; left: both found, at `i` and `j`
  rename_i i j
  simp only [List.getD_eq_getElem?_getD, List.getElem?_zipWith]
  by_cases hi : i < k
  · have a1 : i < m1.length := h1.1 ▸ hi
    have a2 : i < m2.length := h2.1 ▸ hi
    simp only [List.getElem?_eq_getElem a1, List.getElem?_eq_getElem a2, Option.getD_some]
    have := getD_zipWith' m1[i] m2[i] f 0 hf
      ((h1.2 _ (List.getElem_mem a1)).trans (h2.2 _ (List.getElem_mem a2)).symm) j
    simpa only [List.getD_eq_getElem?_getD] using this
  · simp [List.getElem?_eq_none (h1.1 ▸ Nat.le_of_not_lt hi),
      List.getElem?_eq_none (h2.1 ▸ Nat.le_of_not_lt hi), hf]

end Lookup2

/-- the outer product of two arrays, looked up by a pair of names, is the product of the two look-ups -/
theorem L2_outer {α : Type} [MulZeroClass α] (vars : List String) (a b : List α) (n w : String) :
    lookup2OrZero vars (outer a b) n w = lookupOrZero vars a n * lookupOrZero vars b w := by
  unfold lookup2OrZero lookupOrZero outer
  cases vars.idxOf? n <;> cases vars.idxOf? w <;> simp only [zero_mul, mul_zero]
  -- a missing name makes both sides 0; left: both found, at `i` and `j`
  rename_i i j
  simp only [List.getD_eq_getElem?_getD, List.getElem?_map]
  cases a[i]? <;> simp only [Option.map_none, Option.map_some, Option.getD_none, Option.getD_some,
    List.getElem?_nil, List.getElem?_map, zero_mul]
  cases b[j]? <;> simp

section Shape
variable {α : Type}

theorem Dual2.mshape_zipWith (k : Nat) (m1 m2 : List (List α)) (f : α → α → α)
    (h1 : MShape k m1) (h2 : MShape k m2) : MShape k (List.zipWith (List.zipWith f) m1 m2) := by
  refine ⟨by simp [h1.1, h2.1], ?_⟩
  intro r hr
  obtain ⟨i, hi, rfl⟩ := List.getElem_of_mem hr
  simp only [List.length_zipWith, h1.1, h2.1, Nat.min_self] at hi
  simp only [List.getElem_zipWith, List.length_zipWith]
  rw [h1.2 _ (List.getElem_mem _), h2.2 _ (List.getElem_mem _), Nat.min_self]

theorem Dual2.mshape_map (k : Nat) (m : List (List α)) (g : α → α) (h : MShape k m) :
    MShape k (m.map (fun r => r.map g)) := by
  refine ⟨by simp [h.1], ?_⟩
  intro r hr
  simp only [List.mem_map] at hr
  obtain ⟨x, hx, rfl⟩ := hr
  simp [h.2 x hx]

theorem mshape_outer [CommRing α] (k : Nat) (a b : List α) (ha : a.length = k) (hb : b.length = k) :
    MShape k (outer a b) :=
  ha ▸ mshape_map_map a b _ (hb.trans ha.symm)

end Shape

/-! The vector and matrix helpers of the model, unfolded to `map` / `zipWith` (each by `rfl`). -/
section Unfold
variable {α : Type} [CommRing α]
theorem madd_eq (A B : List (List α)) : madd A B = List.zipWith (List.zipWith (· + ·)) A B := rfl
theorem msub_eq (A B : List (List α)) : msub A B = List.zipWith (List.zipWith (· - ·)) A B := rfl
theorem mscaleL_eq (s : α) (M : List (List α)) : mscaleL s M = M.map (fun r => r.map (s * ·)) := rfl
theorem mscaleR_eq (s : α) (M : List (List α)) : mscaleR M s = M.map (fun r => r.map (· * s)) := rfl
theorem mneg_eq (M : List (List α)) : mneg M = M.map (fun r => r.map (fun x => -x)) := rfl
theorem vscaleL_eq (s : α) (v : List α) : vscaleL s v = v.map (s * ·) := rfl
theorem vscaleR_eq (s : α) (v : List α) : vscaleR v s = v.map (· * s) := rfl
theorem vneg_eq (v : List α) : vneg v = v.map (fun x => -x) := rfl
theorem Dual2.den_mk (r : α) (vs : List String) (dl : List α) (M : List (List α)) (n : String) :
    Dual2.den ⟨r, vs, dl, M⟩ n = lookupOrZero vs dl n := rfl
theorem Dual2.den2_mk (r : α) (vs : List String) (dl : List α) (M : List (List α)) (n w : String) :
    Dual2.den2 ⟨r, vs, dl, M⟩ n w = lookup2OrZero vs M n w := rfl

end Unfold

namespace Dual2
variable {α : Type} [CommRing α]

theorem den2_map (x : Dual2 α) (g : α → α) (hg : g 0 = 0) (mx : MShape x.vars.length x.dual2)
    (r : α) (dl : List α) (n w : String) :
    den2 ⟨r, x.vars, dl, x.dual2.map (fun row => row.map g)⟩ n w = g (den2 x n w) :=
  L2_map _ _ g hg n w

end Dual2

namespace Dual2
variable {α : Type} [OfNat α 0]

theorem toNewVars_eq_ofFun (d : Dual2 α) (nv : List String) (st : VarsRel)
    (hst : st ≠ .arcEq ∧ st ≠ .valEq) : d.toNewVars nv st = ofFun d.real nv (den d) (den2 d) := by
  cases st
  · exact absurd rfl hst.1
  · exact absurd rfl hst.2
  all_goals rfl

theorem den_toNewVars_lookup (d : Dual2 α) (nv : List String) (st : VarsRel)
    (hst : st ≠ .arcEq ∧ st ≠ .valEq) (n : String) :
    den (d.toNewVars nv st) n = if n ∈ nv then den d n else 0 :=
  toNewVars_eq_ofFun d nv st hst ▸ den_ofFun _ _ _ _ n

theorem den2_toNewVars_lookup (d : Dual2 α) (nv : List String) (st : VarsRel)
    (hst : st ≠ .arcEq ∧ st ≠ .valEq) (n w : String) :
    den2 (d.toNewVars nv st) n w = if n ∈ nv ∧ w ∈ nv then den2 d n w else 0 :=
  toNewVars_eq_ofFun d nv st hst ▸ den2_ofFun _ _ _ _ n w

theorem wf_toNewVars_lookup (d : Dual2 α) (nv : List String) (st : VarsRel)
    (hst : st ≠ .arcEq ∧ st ≠ .valEq) (hn : nv.Nodup) :
    (d.toNewVars nv st).WF ∧ (d.toNewVars nv st).vars = nv ∧ (d.toNewVars nv st).real = d.real :=
  toNewVars_eq_ofFun d nv st hst ▸ ⟨ofFun_wf _ _ _ _ hn, rfl, rfl⟩

/-- after alignment both operands live on one duplicate-free list that is, as a set, the union of
the two lists, and nothing changed name by name — first AND second order -/
structure AlignedSpec (a b x y : Dual2 α) : Prop where
  vars_eq : x.vars = y.vars
  wfx : x.WF
  wfy : y.WF
  denx : ∀ n, den x n = den a n
  deny : ∀ n, den y n = den b n
  den2x : ∀ n w, den2 x n w = den2 a n w
  den2y : ∀ n w, den2 y n w = den2 b n w
  realx : x.real = a.real
  realy : y.real = b.real
  mem : ∀ n, n ∈ x.vars ↔ n ∈ a.vars ∨ n ∈ b.vars

theorem aligned_spec (p : Bool) (a b : Dual2 α) (ha : a.WF) (hb : b.WF)
    (hp : p = true → a.vars = b.vars) :
    AlignedSpec a b (aligned p a b).1 (aligned p a b).2 := by
  obtain ⟨cv, hn, hm, hal⟩ := aligned_eq p a b ha hb hp
  have sa : ∀ n ∈ a.vars, n ∈ cv := fun n h => (hm n).2 (Or.inl h)
  have sb : ∀ n ∈ b.vars, n ∈ cv := fun n h => (hm n).2 (Or.inr h)
  rw [hal]
  exact ⟨rfl, ofFun_wf _ _ _ _ hn, ofFun_wf _ _ _ _ hn, den_ofFun_off fun _ => den_off sa,
    den_ofFun_off fun _ => den_off sb, den2_ofFun_off fun _ _ => den2_off sa,
    den2_ofFun_off fun _ _ => den2_off sb, rfl, rfl, hm⟩

end Dual2

end Rateslib
