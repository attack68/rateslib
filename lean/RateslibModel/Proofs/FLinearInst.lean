/-
The value projection and the derivatives by name (by pair of names) of list-level first- and second-order
dual numbers over ℝ are module homomorphisms on well-formed numbers (Proofs/FLinear.lean).  What `csolve`
returns (`csolve_eq`; `csolve_square`, `csolve_lsq` over ℝ); the square spline solve followed by evaluation
commutes with every module homomorphism of its data (`spline_hom`).
-/
import RateslibModel.Proofs.Basic
import RateslibModel.Proofs.FLinear
import RateslibModel.Proofs.DualOps
import RateslibModel.Analysis.Refine
import RateslibModel.Analysis.Refine2
import RateslibModel.Model.Spline
import RateslibModel.Proofs.SplineDeriv
namespace Rateslib
open Rateslib.Dual

/-- the per-name derivative is linear on well-formed first-order numbers -/
theorem den_modHom (v : String) :
    ModHom (K := ℝ) (σ := Dual ℝ) (ρ := ℝ) (fun d => den d v) Dual.WF where
  zero := (Expr.const_jetOf 0 v).imp_right (congrArg Prod.snd)
  add a b ha hb := (Expr.add_jetOf a b ha hb v).imp_right (congrArg Prod.snd)
  sub a b ha hb := (Expr.sub_jetOf a b ha hb v).imp_right (congrArg Prod.snd)
  smul c a ha := (Expr.scaleL_jetOf a ha _ c v).imp_right (congrArg Prod.snd)

/-- so is the value projection -/
theorem real_modHom : ModHom (K := ℝ) (σ := Dual ℝ) (ρ := ℝ) (fun d => d.real) Dual.WF where
  zero := ⟨Dual.new_wf 0 [], rfl⟩
  add a b ha hb := have S := add_spec false a b ha hb (by simp); ⟨S.wf, S.real⟩
  sub a b ha hb := have S := sub_spec false a b ha hb (by simp); ⟨S.wf, S.real⟩
  smul c a ha := ⟨Dual.wf_scaleL a c _ ha, mul_comm a.real c⟩

theorem real_modHom2 : ModHom (K := ℝ) (σ := Dual2 ℝ) (ρ := ℝ) (fun d => d.real) Dual2.WF where
  zero := ⟨Dual2.new_wf 0 [], rfl⟩
  add a b ha hb := have S := Dual2.add_spec false a b ha hb (by simp); ⟨S.wf, S.real⟩
  sub a b ha hb := have S := Dual2.sub_spec false a b ha hb (by simp); ⟨S.wf, S.real⟩
  smul c a ha := ⟨(Dual2.scaleL_spec a ha (a.real * c) c).wf, mul_comm a.real c⟩

theorem den_modHom2 (v : String) :
    ModHom (K := ℝ) (σ := Dual2 ℝ) (ρ := ℝ) (fun d => Dual2.den d v) Dual2.WF where
  zero := ⟨Dual2.new_wf 0 [], Dual2.den_new 0 [] v⟩
  add a b ha hb := have S := Dual2.add_spec false a b ha hb (by simp); ⟨S.wf, S.den v⟩
  sub a b ha hb := have S := Dual2.sub_spec false a b ha hb (by simp); ⟨S.wf, S.den v⟩
  smul c a ha := have S := Dual2.scaleL_spec a ha (a.real * c) c; ⟨S.wf, S.den v⟩

theorem den2_modHom (v w : String) :
    ModHom (K := ℝ) (σ := Dual2 ℝ) (ρ := ℝ) (fun d => Dual2.den2 d v w) Dual2.WF where
  zero := ⟨Dual2.new_wf 0 [], Dual2.den2_new 0 [] v w⟩
  add a b ha hb := have S := Dual2.add_spec false a b ha hb (by simp); ⟨S.wf, S.den2 v w⟩
  sub a b ha hb := have S := Dual2.sub_spec false a b ha hb (by simp); ⟨S.wf, S.den2 v w⟩
  smul c a ha :=
    have S := Dual2.scaleL_spec a ha (a.real * c) c
    -- `S.den2 v w` is `c * den2 a v w + 0 * (den a v * den a w)`: scaling has no second-order chain term
    ⟨S.wf, (S.den2 v w).trans (by rw [zero_mul, add_zero]; rfl)⟩

section
variable {α : Type} [Add α] [Sub α] [Mul α] [Div α] [Neg α] [OfNat α 0] [OfNat α 1] [OfNat α 2]
  [Transc α] {τ : Type} [ModOps α τ]

omit [OfNat α 2] in
/-- `csolve` succeeds exactly on a square system, or an over-determined one when least squares is allowed,
with as many data as sites; then it stores the solver's answer. -/
theorem csolve_eq (s : PPSpline α τ) (tau : List α) (y : List τ) (l r : Nat) (lsq : Bool) :
    s.csolve tau y l r lsq =
      if (tau.length = s.n ∨ (lsq = true ∧ s.n < tau.length)) ∧ tau.length = y.length then
        some { s with c := some ((List.range s.n).map (fdsolve (α := α) (σ := τ) tau.length s.n
          ⟨bsplMatrix s.k s.t s.n tau l r, fun i => y.getD i (ModOps.zero α)⟩ lsq)) }
      else none := by
  unfold PPSpline.csolve
  have hg : (decide (tau.length ≠ s.n) && !(lsq && decide (tau.length > s.n))) = true ↔
      ¬(tau.length = s.n ∨ (lsq = true ∧ s.n < tau.length)) := by
    cases lsq <;> simp
  by_cases hA : tau.length = s.n ∨ (lsq = true ∧ s.n < tau.length)
  · rw [if_neg (mt hg.1 (not_not.2 hA))]
    by_cases h2 : tau.length = y.length
    · rw [if_neg (not_not.2 h2), if_pos ⟨hA, h2⟩]
    · rw [if_pos h2, if_neg (fun h => h2 h.2)]
  · rw [if_pos (hg.2 hA), if_neg (fun h => hA h.1)]

end

section
variable {τ : Type} [ModOps ℝ τ]

theorem csolve_square (k : Nat) (t tau : List ℝ) (y : List τ) (l r : Nat) :
    (⟨k, t, none⟩ : PPSpline ℝ τ).csolve tau y l r false =
      if tau.length = t.length - k ∧ tau.length = y.length then
        some ⟨k, t, some ((List.range (t.length - k)).map
          (fdsolve21 (α := ℝ) (t.length - k)
            ⟨bsplMatrix k t (t.length - k) tau l r, fun i => y.getD i (ModOps.zero ℝ)⟩))⟩
      else none := by
  rw [csolve_eq]
  simp [PPSpline.n, fdsolve]
end

/-- the least-squares solve, spelled out: the normal equations `AᵀA c = Aᵀy` over `rows = tau.length` rows -/
theorem csolve_lsq (k : Nat) (t tau : List ℝ) (y : List ℝ) (l r : Nat) :
    (⟨k, t, none⟩ : PPSpline ℝ ℝ).csolve tau y l r true =
      if (tau.length = t.length - k ∨ tau.length > t.length - k) ∧ tau.length = y.length then
        some ⟨k, t, some ((List.range (t.length - k)).map
          (fdsolve21 (α := ℝ) (σ := ℝ) (t.length - k)
            ⟨fun i j => ∑ q ∈ Finset.range tau.length,
                bsplMatrix k t (t.length - k) tau l r q i * bsplMatrix k t (t.length - k) tau l r q j,
             fun i => ∑ q ∈ Finset.range tau.length,
                bsplMatrix k t (t.length - k) tau l r q i * y.getD q 0⟩))⟩
      else none := by
  rw [csolve_eq]
  have hd : ∀ f g : Nat → ℝ, dotOver (List.range tau.length) f g = _ :=
    dotOver_range (fun _ _ => true) _
  simp only [PPSpline.n, fdsolve, fdot_real_sum, hd, if_true, true_and]
  rfl

/-- Applying a module homomorphism `φ` to a spline solved on data `y` (square system) and evaluated at
any abscissa and derivative order gives the spline solved on the data `φ(y)`.  With `φ` the sensitivity to a
variable carried by one datum only, that is the spline through the corresponding unit data. -/
theorem spline_hom {σ : Type} [ModOps ℝ σ] (φ : σ → ℝ) (G : σ → Prop) (H : ModHom (K := ℝ) φ G)
    (k : Nat) (t tau : List ℝ) (y : List σ) (hy : ∀ d ∈ y, G d) (l r : Nat)
    (sD' : PPSpline ℝ σ) (h : (⟨k, t, none⟩ : PPSpline ℝ σ).csolve tau y l r false = some sD') :
    ∃ sF' : PPSpline ℝ ℝ, (⟨k, t, none⟩ : PPSpline ℝ ℝ).csolve tau (y.map φ) l r false = some sF' ∧
      ∀ x m, (sD'.ppdnev x m).map φ = sF'.ppdnev x m := by
  have hz : φ (ModOps.zero ℝ) = (0 : ℝ) := H.zero.2
  rw [csolve_square] at h ⊢
  rw [List.length_map]
  by_cases hc : tau.length = t.length - k ∧ tau.length = y.length
  · rw [if_pos hc] at h ⊢
    injection h with h
    subst h
    refine ⟨_, rfl, ?_⟩
    intro x m
    simp only [PPSpline.ppdnev, PPSpline.n, Option.map_some]
    congr 1
    have hyG : ∀ i, G (y.getD i (ModOps.zero ℝ)) := getD_forall H.zero.1 hy
    have hrel : FRel φ G
        (⟨bsplMatrix k t (t.length - k) tau l r, fun i => y.getD i (ModOps.zero ℝ)⟩ : FSys ℝ σ)
        (⟨bsplMatrix k t (t.length - k) tau l r, fun i => (y.map φ).getD i (ModOps.zero ℝ)⟩ : FSys ℝ ℝ) :=
      ⟨rfl, fun i => ⟨hyG i, (getD_map_hom φ _ _ hz y i).symm⟩⟩
    have hsol := fdsolve21_hom (K := ℝ) H (t.length - k) _ _ hrel
    apply (fdot_hom H _ _ _ _ _).2
    intro i
    rw [getD_map_range, getD_map_range]
    by_cases hi : i < t.length - k
    · rw [if_pos hi, if_pos hi]; exact hsol i
    · rw [if_neg hi, if_neg hi]; exact H.zero
  · rw [if_neg hc] at h; cases h
end Rateslib
