/-
The three smooth interpolation rules are built from the five `NumOps` operations only, so every map
that commutes with those operations commutes with the rules.  C12 uses this three times: for the value
part of a dual number, for its (value, derivative by name) pair and for its directional 2-jet.
-/
import RateslibModel.Model.Curve
import RateslibModel.Proofs.Basic
namespace Rateslib

/-- `J` carries the five operations of the interpolation rules on `τ` to those on `σ`, for arguments
satisfying the invariant `P`, which the operations keep -/
structure NumOpsHom (α : Type) {τ σ : Type} [NumOps α τ] [NumOps α σ] (P : τ → Prop) (J : τ → σ) :
    Prop where
  add : ∀ a b, P a → P b → P (NumOps.add α a b) ∧ J (NumOps.add α a b) = NumOps.add α (J a) (J b)
  sub : ∀ a b, P a → P b → P (NumOps.sub α a b) ∧ J (NumOps.sub α a b) = NumOps.sub α (J a) (J b)
  mulF : ∀ a (c : α), P a → P (NumOps.mulF a c) ∧ J (NumOps.mulF a c) = NumOps.mulF (J a) c
  log : ∀ a, P a → P (NumOps.log α a) ∧ J (NumOps.log α a) = NumOps.log α (J a)
  exp : ∀ a, P a → P (NumOps.exp α a) ∧ J (NumOps.exp α a) = NumOps.exp α (J a)

variable {α : Type} [Sub α] [Div α] [Neg α] [OfNat α 0] [OfNat α 1] [Transc α]
  {τ σ : Type} [NumOps α τ] [NumOps α σ] {P : τ → Prop} {J : τ → σ}

/-- the zero-rate rule is the straight-line rule on the two rates `log yᵢ · (−1/tᵢ)`, except on the
first interval, where the right rate is used alone -/
theorem linearZeroInterp_eq (x0 x1 x2 x : α) (y1 y2 : τ) :
    linearZeroInterp x0 x1 y1 x2 y2 x = NumOps.exp α (NumOps.mulF
      (if Transc.eqb (x1 - x0) 0 then NumOps.mulF (NumOps.log α y2) (-1 / (x2 - x0))
       else linearInterp (x1 - x0) (NumOps.mulF (NumOps.log α y1) (-1 / (x1 - x0)))
         (x2 - x0) (NumOps.mulF (NumOps.log α y2) (-1 / (x2 - x0))) (x - x0))
      (-(x - x0))) := rfl

namespace NumOpsHom
variable {y1 y2 : τ} {z1 z2 : σ}

omit [Sub α] [Div α] [Neg α] [OfNat α 0] [OfNat α 1] [Transc α] in
/-- `hom_lift₁` for `mulF`, whose scalar comes last -/
theorem mulF' (H : NumOpsHom α P J) (c : α) (h1 : P y1 ∧ J y1 = z1) :
    P (NumOps.mulF y1 c) ∧ J (NumOps.mulF y1 c) = NumOps.mulF z1 c :=
  h1.2 ▸ H.mulF y1 c h1.1

omit [Neg α] [OfNat α 0] [OfNat α 1] [Transc α] in
theorem linear (H : NumOpsHom α P J) (x1 x2 x : α) (h1 : P y1 ∧ J y1 = z1) (h2 : P y2 ∧ J y2 = z2) :
    P (linearInterp x1 y1 x2 y2 x) ∧ J (linearInterp x1 y1 x2 y2 x) = linearInterp x1 z1 x2 z2 x :=
  hom_lift₂ H.add h1 (H.mulF' _ (hom_lift₂ H.sub h2 h1))

omit [Neg α] [OfNat α 0] [OfNat α 1] [Transc α] in
theorem logLinear (H : NumOpsHom α P J) (x1 x2 x : α) (h1 : P y1 ∧ J y1 = z1) (h2 : P y2 ∧ J y2 = z2) :
    P (logLinearInterp x1 y1 x2 y2 x) ∧
      J (logLinearInterp x1 y1 x2 y2 x) = logLinearInterp x1 z1 x2 z2 x :=
  hom_lift₁ H.exp (H.linear x1 x2 x (hom_lift₁ H.log h1) (hom_lift₁ H.log h2))

theorem zeroRate (H : NumOpsHom α P J) (x0 x1 x2 x : α) (h1 : P y1 ∧ J y1 = z1) (h2 : P y2 ∧ J y2 = z2) :
    P (linearZeroInterp x0 x1 y1 x2 y2 x) ∧
      J (linearZeroInterp x0 x1 y1 x2 y2 x) = linearZeroInterp x0 x1 z1 x2 z2 x := by
  have r1 := H.mulF' (-1 / (x1 - x0)) (hom_lift₁ H.log h1)
  have r2 := H.mulF' (-1 / (x2 - x0)) (hom_lift₁ H.log h2)
  rw [linearZeroInterp_eq, linearZeroInterp_eq]
  refine hom_lift₁ H.exp (H.mulF' _ ?_)
  split
  · exact r2
  · exact H.linear _ _ _ r1 r2

end NumOpsHom
end Rateslib
