/-
B-spline basis over ℝ: the model's `bsplev` (with its support short-circuit and right-end-point rule)
against the pure Cox–de Boor recursion `pureB` and the guard-free recursion `genB` over given order-1
functions; support, non-negativity, the values at the last knot.
-/
import RateslibModel.Model.Spline
import RateslibModel.Analysis.RealInst
import Mathlib.Tactic.Linarith
namespace Rateslib

/-- knots are non-decreasing (on the indices that exist) -/
def SortedKnots (t : List ℝ) : Prop := ∀ a b, a ≤ b → b < t.length → knot t a ≤ knot t b

theorem sortedKnots_of_pairwise {t : List ℝ} (h : t.Pairwise (· ≤ ·)) : SortedKnots t := by
  intro a b hab hb
  have ha : a < t.length := by omega
  simp only [knot, List.getD_eq_getElem?_getD, List.getElem?_eq_getElem ha, List.getElem?_eq_getElem hb,
    Option.getD_some]
  rcases Nat.eq_or_lt_of_le hab with rfl | hlt
  · exact le_refl _
  · exact List.pairwise_iff_getElem.1 h a b ha hb hlt

/-- `K`-fold end knots -/
def EndKnots (t : List ℝ) (K : Nat) : Prop :=
  2 * K ≤ t.length ∧ knot t (K - 1) = knot t 0 ∧ knot t (t.length - K) = knot t (t.length - 1)

/-- the pure Cox–de Boor recursion: half-open order-1 indicator, zero-width terms dropped -/
noncomputable def pureB (t : List ℝ) (x : ℝ) : Nat → Nat → ℝ
  | 0, _ => 0
  | k + 1, i =>
    if k = 0 then (if knot t i ≤ x ∧ x < knot t (i + 1) then 1 else 0)
    else
      (if knot t i ≠ knot t (i + k) then
        (x - knot t i) / (knot t (i + k) - knot t i) * pureB t x k i else 0) +
      (if knot t (i + 1) ≠ knot t (i + (k + 1)) then
        (knot t (i + (k + 1)) - x) / (knot t (i + (k + 1)) - knot t (i + 1)) * pureB t x k (i + 1) else 0)

/-- Cox–de Boor recursion over the order-1 functions `b`, without zero-width guards (a zero denominator
makes the term zero in ℝ, exactly what the guards of the implementation do) -/
noncomputable def genB (b : Nat → ℝ → ℝ) (t : List ℝ) (x : ℝ) : Nat → Nat → ℝ
  | 0, _ => 0
  | k + 1, i =>
    if k = 0 then b i x
    else (x - knot t i) / (knot t (i + k) - knot t i) * genB b t x k i
       + (knot t (i + (k + 1)) - x) / (knot t (i + (k + 1)) - knot t (i + 1)) * genB b t x k (i + 1)

/-- right-continuous order-1 functions: indicators of `[t_i, t_{i+1})` -/
noncomputable def bR (t : List ℝ) (i : Nat) (x : ℝ) : ℝ := if knot t i ≤ x ∧ x < knot t (i + 1) then 1 else 0
/-- left-continuous order-1 functions: indicators of `(t_i, t_{i+1}]` -/
noncomputable def bL (t : List ℝ) (i : Nat) (x : ℝ) : ℝ := if knot t i < x ∧ x ≤ knot t (i + 1) then 1 else 0

theorem genB_one (b : Nat → ℝ → ℝ) (t : List ℝ) (x : ℝ) (i : Nat) : genB b t x 1 i = b i x := by
  simp [genB]

theorem genB_succ (b : Nat → ℝ → ℝ) (t : List ℝ) (x : ℝ) (k i : Nat) (hk : k ≠ 0) :
    genB b t x (k + 1) i
      = (x - knot t i) / (knot t (i + k) - knot t i) * genB b t x k i
        + (knot t (i + (k + 1)) - x) / (knot t (i + (k + 1)) - knot t (i + 1)) * genB b t x k (i + 1) := by
  rw [genB, if_neg hk]

/-- a zero-width guard only skips a term that is zero -/
theorem guard_ne (a b v P : ℝ) : (if a ≠ b then v / (b - a) * P else 0) = v / (b - a) * P := by
  split
  · rfl
  · rename_i h
    rw [not_not.1 h, sub_self, div_zero, zero_mul]

/-- the pure Cox–de Boor recursion is the recursion over the half-open indicators (its zero-width guards
only skip terms that are zero) -/
theorem pureB_eq_genB (t : List ℝ) (x : ℝ) : ∀ (k i : Nat), pureB t x k i = genB (bR t) t x k i := by
  intro k
  induction k with
  | zero => intro i; rfl
  | succ k ih =>
    intro i
    rw [pureB, genB]
    by_cases hk : k = 0
    · subst hk; simp [bR]
    · rw [if_neg hk, if_neg hk, guard_ne, guard_ne, ih, ih]

/-- local support (half-open): zero outside `[t_i, t_{i+k})` -/
theorem genB_bR_support (t : List ℝ) (hs : SortedKnots t) (x : ℝ) :
    ∀ (k i : Nat), i + k < t.length → (x < knot t i ∨ knot t (i + k) ≤ x) → genB (bR t) t x k i = 0 := by
  intro k
  induction k with
  | zero => intro i _ _; rfl
  | succ k ih =>
    intro i hik hx
    by_cases hk : k = 0
    · subst hk
      rw [genB_one, bR, if_neg]
      rintro ⟨h1, h2⟩
      rcases hx with hx | hx <;> linarith
    · have m1 : knot t (i + k) ≤ knot t (i + (k + 1)) := hs _ _ (by omega) (by omega)
      have m2 : knot t i ≤ knot t (i + 1) := hs _ _ (by omega) (by omega)
      have e1 : genB (bR t) t x k i = 0 := by
        apply ih i (by omega)
        rcases hx with hx | hx
        · exact Or.inl hx
        · -- x ≥ t_{i+k+1} ≥ t_{i+k}
          exact Or.inr (m1.trans hx)
      have e2 : genB (bR t) t x k (i + 1) = 0 := by
        apply ih (i + 1) (by omega)
        rcases hx with hx | hx
        · -- x < t_i ≤ t_{i+1}
          exact Or.inl (hx.trans_le m2)
        · rw [Nat.add_right_comm]
          exact Or.inr hx
      rw [genB_succ _ _ _ _ _ hk, e1, e2, mul_zero, mul_zero, add_zero]

theorem genB_bR_nonneg (t : List ℝ) (hs : SortedKnots t) (x : ℝ) :
    ∀ (k i : Nat), i + k < t.length → 0 ≤ genB (bR t) t x k i := by
  intro k
  induction k with
  | zero => intro i _; exact le_refl _
  | succ k ih =>
    intro i hik
    by_cases hk : k = 0
    · subst hk; rw [genB_one, bR]; split <;> norm_num
    · by_cases hout : x < knot t i ∨ knot t (i + (k + 1)) ≤ x
      · rw [genB_bR_support t hs x (k + 1) i hik hout]
      · push Not at hout
        -- inside the support both weights are quotients of non-negative numbers
        have m1 : knot t i ≤ knot t (i + k) := hs _ _ (by omega) (by omega)
        have m2 : knot t (i + 1) ≤ knot t (i + (k + 1)) := hs _ _ (by omega) (by omega)
        rw [genB_succ _ _ _ _ _ hk]
        exact add_nonneg
          (mul_nonneg (div_nonneg (sub_nonneg.2 hout.1) (sub_nonneg.2 m1)) (ih i (by omega)))
          (mul_nonneg (div_nonneg (sub_nonneg.2 hout.2.le) (sub_nonneg.2 m2)) (ih (i + 1) (by omega)))

/-- For every point strictly before the last knot the model's evaluation IS the pure recursion:
the support short-circuit only skips zeros and the right-end-point rule never fires. -/
theorem bsplev_eq_pure (t : List ℝ) (hs : SortedKnots t) (x : ℝ) (hx : x < knot t (t.length - 1)) :
    ∀ (k i org : Nat), i + k < t.length → bsplev t x k i org = pureB t x k i := by
  intro k
  induction k with
  | zero => intro i org _; rfl
  | succ k ih =>
    intro i org hik
    unfold bsplev
    by_cases hsc : (Transc.ltb x (knot t i) || Transc.ltb (knot t (i + (k + 1))) x) = true
    · rw [if_pos hsc]
      simp only [Bool.or_eq_true, ltb_iff] at hsc
      rw [pureB_eq_genB]
      exact (genB_bR_support t hs x (k + 1) i hik (hsc.imp_right le_of_lt)).symm
    · rw [if_neg hsc]
      have hne : ¬ ((Transc.eqb x (knot t (t.length - 1)) && decide (i ≥ t.length - org - 1)) = true) := by
        simp only [Bool.and_eq_true, eqb_iff, not_and]
        intro h; linarith
      rw [if_neg hne]
      unfold pureB
      by_cases hk : k = 0
      · subst hk
        simp only [if_true, Bool.and_eq_true, leb_iff, ltb_iff]
      · rw [if_neg hk, if_neg hk]
        simp only [Bool.not_eq_true', ← Bool.not_eq_true, eqb_iff, ih i k (by omega), ih (i + 1) k (by omega)]

theorem bsplev_eq_genB (t : List ℝ) (hs : SortedKnots t) (x : ℝ) (hx : x < knot t (t.length - 1))
    (k i org : Nat) (hik : i + k < t.length) : bsplev t x k i org = genB (bR t) t x k i :=
  (bsplev_eq_pure t hs x hx k i org hik).trans (pureB_eq_genB t x k i)

/-- At the last knot a function the right-end-point rule (with carried order `org`) does not cover
evaluates to zero: if the support test lets it through, its right weight is zero and its left factor is
again such a function. -/
theorem bsplev_last_zero (t : List ℝ) (hs : SortedKnots t) :
    ∀ (k i org : Nat), i + k < t.length → i < t.length - org - 1 →
      bsplev t (knot t (t.length - 1)) k i org = 0 := by
  intro k
  induction k with
  | zero => intro i org _ _; rfl
  | succ k ih =>
    intro i org hik hi
    unfold bsplev
    split
    · rfl
    · rename_i hsc
      simp only [Bool.or_eq_true, ltb_iff, not_or, not_lt] at hsc
      have hne : ¬ ((Transc.eqb (knot t (t.length - 1)) (knot t (t.length - 1)) &&
          decide (i ≥ t.length - org - 1)) = true) := by
        simp only [Bool.and_eq_true, decide_eq_true_eq, not_and]
        intro _; omega
      rw [if_neg hne]
      by_cases hk : k = 0
      · subst hk
        simp only [if_true]
        rw [if_neg]
        simp only [Bool.and_eq_true, leb_iff, ltb_iff, not_and, not_lt]
        intro _
        exact hs _ _ (by omega) (by omega)
      · rw [if_neg hk, ih i k (by omega) (by omega),
          le_antisymm (hs (i + (k + 1)) _ (by omega) (by omega)) hsc.2]
        simp

/-- … and one it covers, whose support reaches the last knot, is 1. -/
theorem bsplev_last_one (t : List ℝ) (hs : SortedKnots t) (k i org : Nat) (hk : 1 ≤ k)
    (hik : i + k < t.length) (he : knot t (i + k) = knot t (t.length - 1)) (hi : t.length - org - 1 ≤ i) :
    bsplev t (knot t (t.length - 1)) k i org = 1 := by
  obtain ⟨k', rfl⟩ : ∃ k', k = k' + 1 := ⟨k - 1, by omega⟩
  unfold bsplev
  rw [if_neg, if_pos]
  · simp only [Bool.and_eq_true, eqb_iff, decide_eq_true_eq, true_and]
    exact hi
  · simp only [Bool.or_eq_true, ltb_iff, not_or, not_lt, he]
    exact ⟨hs _ _ (by omega) (by omega), le_refl _⟩

end Rateslib
