import RateslibModel.Model.Holidays
import RateslibModel.Gen.HolidayTables
namespace Rateslib.C07

/-- every weekday occurrence of the documented fixed-date and Easter-linked holidays of "tyo" is a
holiday reported by the running code -/
theorem partial_tyo : subsetSorted (ruleDates tyoPartial) Gen.wdHols_tyo = true ∧ Gen.mask_tyo = [5, 6] := by
  decide +kernel

end Rateslib.C07
