import RateslibModel.Model.Holidays
import RateslibModel.Gen.HolidayTables
namespace Rateslib.C07

/-- the weekday holidays reported by the running code for "tgt" are exactly those the published
rules generate, and the week mask is Saturday/Sunday -/
theorem full_tgt : Gen.wdHols_tgt = ruleDates tgtRules ∧ Gen.mask_tgt = [5, 6] := by decide +kernel

end Rateslib.C07
