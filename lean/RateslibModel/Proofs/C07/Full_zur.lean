import RateslibModel.Model.Holidays
import RateslibModel.Gen.HolidayTables
namespace Rateslib.C07

/-- the weekday holidays reported by the running code for "zur" are exactly those the published
rules generate, and the week mask is Saturday/Sunday -/
theorem full_zur : Gen.wdHols_zur = ruleDates zurRules ∧ Gen.mask_zur = [5, 6] := by decide +kernel

end Rateslib.C07
