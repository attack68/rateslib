import RateslibModel.Model.Holidays
import RateslibModel.Gen.HolidayTables
namespace Rateslib.C07

/-- the weekday holidays reported by the running code for "ldn" are exactly those the published
rules generate, and the week mask is Saturday/Sunday -/
theorem full_ldn : Gen.wdHols_ldn = ruleDates ldnRules ∧ Gen.mask_ldn = [5, 6] := by decide +kernel

end Rateslib.C07
