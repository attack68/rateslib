import RateslibModel.Model.Holidays
import RateslibModel.Gen.HolidayTables
import RateslibModel.Gen.Fixings
namespace Rateslib.C07

/-- over the period covered by the cad fixing history the business days of "tro" are exactly the
publication dates -/
theorem fixings_cad :
    Gen.fixingDates_cad ≠ [] ∧
    busDaysCheck Gen.mask_tro
      ((Gen.fixingDates_cad.getLast?.getD 0 - Gen.fixingDates_cad.headD 0 + 1).toNat)
      (Gen.fixingDates_cad.headD 0) Gen.wdHols_tro Gen.fixingDates_cad = true := by
  decide +kernel

end Rateslib.C07
