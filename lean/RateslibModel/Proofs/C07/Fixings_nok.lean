import RateslibModel.Model.Holidays
import RateslibModel.Gen.HolidayTables
import RateslibModel.Gen.Fixings
namespace Rateslib.C07

/-- over the period covered by the nok fixing history the business days of "osl" are exactly the
publication dates -/
theorem fixings_nok :
    Gen.fixingDates_nok ≠ [] ∧
    busDaysCheck Gen.mask_osl
      ((Gen.fixingDates_nok.getLast?.getD 0 - Gen.fixingDates_nok.headD 0 + 1).toNat)
      (Gen.fixingDates_nok.headD 0) Gen.wdHols_osl Gen.fixingDates_nok = true := by
  decide +kernel

end Rateslib.C07
