import RateslibModel.Model.Holidays
import RateslibModel.Gen.HolidayTables
namespace Rateslib.C07

/-- the weekday holidays reported by the running code for "nyc" are exactly those the published
rules generate, and the week mask is Saturday/Sunday -/
theorem full_nyc : Gen.wdHols_nyc = ruleDates nycRules ∧ Gen.mask_nyc = [5, 6] := by decide +kernel

end Rateslib.C07
