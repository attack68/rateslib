import RateslibModel.Model.Holidays
import RateslibModel.Gen.HolidayTables
import RateslibModel.Gen.Fixings
namespace Rateslib.C07

/-- over the period covered by the aud fixing history the business days of "syd" are exactly the
publication dates -/
theorem fixings_aud :
    Gen.fixingDates_aud ≠ [] ∧
    busDaysCheck Gen.mask_syd
      ((Gen.fixingDates_aud.getLast?.getD 0 - Gen.fixingDates_aud.headD 0 + 1).toNat)
      (Gen.fixingDates_aud.headD 0) Gen.wdHols_syd Gen.fixingDates_aud = true := by
  decide +kernel

end Rateslib.C07
