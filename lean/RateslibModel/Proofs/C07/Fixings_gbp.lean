import RateslibModel.Model.Holidays
import RateslibModel.Gen.HolidayTables
import RateslibModel.Gen.Fixings
namespace Rateslib.C07

/-- over the period covered by the gbp fixing history the business days of "ldn" are exactly the
publication dates -/
theorem fixings_gbp :
    Gen.fixingDates_gbp ≠ [] ∧
    busDaysCheck Gen.mask_ldn
      ((Gen.fixingDates_gbp.getLast?.getD 0 - Gen.fixingDates_gbp.headD 0 + 1).toNat)
      (Gen.fixingDates_gbp.headD 0) Gen.wdHols_ldn Gen.fixingDates_gbp = true := by
  decide +kernel

end Rateslib.C07
