import RateslibModel.Gen.DocNames
import RateslibModel.Gen.HolidayTables
namespace Rateslib.C07

/-- every calendar name listed in the documentation resolves (and the list is not empty) -/
theorem doc_names_resolve :
    (Gen.docNameResolution.map Prod.snd).all id = true ∧ Gen.docNameResolution.length ≥ 1 := by
  decide +kernel

/-- all fourteen built-in names resolve -/
theorem builtin_names_resolve :
    [Gen.resolves_all, Gen.resolves_bus, Gen.resolves_nyc, Gen.resolves_fed, Gen.resolves_tgt,
     Gen.resolves_ldn, Gen.resolves_stk, Gen.resolves_osl, Gen.resolves_zur, Gen.resolves_tro,
     Gen.resolves_tyo, Gen.resolves_syd, Gen.resolves_wlg, Gen.resolves_mum].all id = true := by
  decide +kernel

end Rateslib.C07
