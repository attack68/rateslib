import RateslibModel.Model.Holidays
import RateslibModel.Gen.HolidayTables
namespace Rateslib.C07

/-- every weekday occurrence of the documented fixed-date and Easter-linked holidays of "mum" is a
holiday reported by the running code -/
theorem partial_mum : subsetSorted (ruleDates mumPartial) Gen.wdHols_mum = true ∧ Gen.mask_mum = [5, 6] := by
  decide +kernel

end Rateslib.C07
