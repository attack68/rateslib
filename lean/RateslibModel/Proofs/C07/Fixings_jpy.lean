import RateslibModel.Model.Holidays
import RateslibModel.Gen.HolidayTables
import RateslibModel.Gen.Fixings
namespace Rateslib.C07

/-- over the period covered by the jpy fixing history the business days of "tyo" are exactly the
publication dates -/
theorem fixings_jpy :
    Gen.fixingDates_jpy ≠ [] ∧
    busDaysCheck Gen.mask_tyo
      ((Gen.fixingDates_jpy.getLast?.getD 0 - Gen.fixingDates_jpy.headD 0 + 1).toNat)
      (Gen.fixingDates_jpy.headD 0) Gen.wdHols_tyo Gen.fixingDates_jpy = true := by
  decide +kernel

end Rateslib.C07
