import RateslibModel.Model.Holidays
import RateslibModel.Gen.HolidayTables
import RateslibModel.Gen.Fixings
namespace Rateslib.C07

/-- over the period covered by the sek fixing history the business days of "stk" are exactly the
publication dates -/
theorem fixings_sek :
    Gen.fixingDates_sek ≠ [] ∧
    busDaysCheck Gen.mask_stk
      ((Gen.fixingDates_sek.getLast?.getD 0 - Gen.fixingDates_sek.headD 0 + 1).toNat)
      (Gen.fixingDates_sek.headD 0) Gen.wdHols_stk Gen.fixingDates_sek = true := by
  decide +kernel

end Rateslib.C07
