import RateslibModel.Model.Holidays
import RateslibModel.Gen.HolidayTables
namespace Rateslib.C07

/-- the weekday holidays reported by the running code for "osl" are exactly those the published
rules generate, and the week mask is Saturday/Sunday -/
theorem full_osl : Gen.wdHols_osl = ruleDates oslRules ∧ Gen.mask_osl = [5, 6] := by decide +kernel

end Rateslib.C07
