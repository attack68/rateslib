import RateslibModel.Model.Holidays
import RateslibModel.Gen.HolidayTables
namespace Rateslib.C07

/-- every weekday occurrence of the documented fixed-date and Easter-linked holidays of "wlg" is a
holiday reported by the running code -/
theorem partial_wlg : subsetSorted (ruleDates wlgPartial) Gen.wdHols_wlg = true ∧ Gen.mask_wlg = [5, 6] := by
  decide +kernel

end Rateslib.C07
