import RateslibModel.Model.Holidays
import RateslibModel.Gen.HolidayTables
namespace Rateslib.C07

/-- every weekday occurrence of the documented fixed-date and Easter-linked holidays of "tro" is a
holiday reported by the running code -/
theorem partial_tro : subsetSorted (ruleDates troPartial) Gen.wdHols_tro = true ∧ Gen.mask_tro = [5, 6] := by
  decide +kernel

end Rateslib.C07
