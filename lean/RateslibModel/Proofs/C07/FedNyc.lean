import RateslibModel.Proofs.Holidays
import RateslibModel.Gen.HolidayTables
namespace Rateslib.C07

/-- Good Fridays of the reference years -/
def goodFridays : List Int := refYears.map (fun y => easterDay y - 2)

/-- 'fed' is the 'nyc' calendar without Good Friday (on the tables reported by the running code) -/
theorem fed_is_nyc_minus_good_friday :
    Gen.wdHols_fed = Gen.wdHols_nyc.filter (fun d => !goodFridays.contains d)
    ∧ Gen.mask_fed = Gen.mask_nyc := by
  -- both lists ascend, so the quadratic `filter` is the merge walk `removeAsc`, which the kernel runs
  rw [← removeAsc_eq_filter _ _ (pairwise_of_ascending _ (by decide +kernel))
    (pairwise_of_ascending _ (by decide +kernel))]
  decide +kernel

theorem all_bus :
    Gen.wdHols_all = [] ∧ Gen.weHols_all = [] ∧ Gen.mask_all = [] ∧
    Gen.wdHols_bus = [] ∧ Gen.weHols_bus = [] ∧ Gen.mask_bus = [5, 6] := by
  decide +kernel

end Rateslib.C07
