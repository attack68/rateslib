import RateslibModel.Model.Holidays
import RateslibModel.Gen.HolidayTables
import RateslibModel.Gen.Fixings
namespace Rateslib.C07

/-- over the period covered by the eur fixing history the business days of "tgt" are exactly the
publication dates -/
theorem fixings_eur :
    Gen.fixingDates_eur ≠ [] ∧
    busDaysCheck Gen.mask_tgt
      ((Gen.fixingDates_eur.getLast?.getD 0 - Gen.fixingDates_eur.headD 0 + 1).toNat)
      (Gen.fixingDates_eur.headD 0) Gen.wdHols_tgt Gen.fixingDates_eur = true := by
  decide +kernel

end Rateslib.C07
