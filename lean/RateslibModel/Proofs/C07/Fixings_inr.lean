import RateslibModel.Model.Holidays
import RateslibModel.Gen.HolidayTables
import RateslibModel.Gen.Fixings
namespace Rateslib.C07

/-- over the period covered by the inr fixing history the business days of "mum" are exactly the
publication dates -/
theorem fixings_inr :
    Gen.fixingDates_inr ≠ [] ∧
    busDaysCheck Gen.mask_mum
      ((Gen.fixingDates_inr.getLast?.getD 0 - Gen.fixingDates_inr.headD 0 + 1).toNat)
      (Gen.fixingDates_inr.headD 0) Gen.wdHols_mum Gen.fixingDates_inr = true := by
  decide +kernel

end Rateslib.C07
