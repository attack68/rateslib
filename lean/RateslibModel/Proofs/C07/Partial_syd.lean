import RateslibModel.Model.Holidays
import RateslibModel.Gen.HolidayTables
namespace Rateslib.C07

/-- every weekday occurrence of the documented fixed-date and Easter-linked holidays of "syd" is a
holiday reported by the running code -/
theorem partial_syd : subsetSorted (ruleDates sydPartial) Gen.wdHols_syd = true ∧ Gen.mask_syd = [5, 6] := by
  decide +kernel

end Rateslib.C07
