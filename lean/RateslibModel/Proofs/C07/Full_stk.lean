import RateslibModel.Model.Holidays
import RateslibModel.Gen.HolidayTables
namespace Rateslib.C07

/-- the weekday holidays reported by the running code for "stk" are exactly those the published
rules generate, and the week mask is Saturday/Sunday -/
theorem full_stk : Gen.wdHols_stk = ruleDates stkRules ∧ Gen.mask_stk = [5, 6] := by decide +kernel

end Rateslib.C07
