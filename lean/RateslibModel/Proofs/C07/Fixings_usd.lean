import RateslibModel.Model.Holidays
import RateslibModel.Gen.HolidayTables
import RateslibModel.Gen.Fixings
namespace Rateslib.C07

/-- over the period covered by the usd fixing history the business days of "nyc" are exactly the
publication dates -/
theorem fixings_usd :
    Gen.fixingDates_usd ≠ [] ∧
    busDaysCheck Gen.mask_nyc
      ((Gen.fixingDates_usd.getLast?.getD 0 - Gen.fixingDates_usd.headD 0 + 1).toNat)
      (Gen.fixingDates_usd.headD 0) Gen.wdHols_nyc Gen.fixingDates_usd = true := by
  decide +kernel

end Rateslib.C07
