import RateslibModel.Model.Holidays
import RateslibModel.Gen.HolidayTables
namespace Rateslib.C07

/-- the weekday holidays reported by the running code for "fed" are exactly those the published
rules generate, and the week mask is Saturday/Sunday -/
theorem full_fed : Gen.wdHols_fed = ruleDates fedRules ∧ Gen.mask_fed = [5, 6] := by decide +kernel

end Rateslib.C07
