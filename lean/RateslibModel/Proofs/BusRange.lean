/-
`bus_date_range` returns the business days of the calendar-date range, in order: each pass of its loop
appends the current business day and skips to the next one.
-/
import RateslibModel.Proofs.BusDays
namespace Rateslib

theorem calDateRange_nil (s e : Int) (h : e < s) : calDateRange s e = [] := by
  unfold calDateRange
  rw [show (e - s + 1).toNat = 0 by omega]
  rfl

theorem calDateRange_cons (s e : Int) (h : s ≤ e) :
    calDateRange s e = s :: calDateRange (s + 1) e := by
  unfold calDateRange
  rw [show (e - s + 1).toNat = (e - (s + 1) + 1).toNat + 1 by omega, List.range_succ_eq_map,
    List.map_cons, List.map_map]
  congr 1
  · simp
  · exact List.map_congr_left fun i _ => by simp only [Function.comp]; omega

namespace DR
variable (c : DR)

/-- days without a business day at the head of a range do not count; the range may end before they do -/
theorem filter_calDateRange_skip (e : Int) : ∀ (k : Nat) (a : Int),
    (∀ x, a ≤ x → x < a + (k : Int) → c.isBus x = false) →
    (calDateRange a e).filter c.isBus = (calDateRange (a + (k : Int)) e).filter c.isBus := by
  intro k
  induction k with
  | zero => intro a _; simp
  | succ k ih =>
    intro a h
    by_cases hae : a ≤ e
    · rw [calDateRange_cons a e hae, List.filter_cons, h a (by omega) (by omega),
        if_neg Bool.false_ne_true, ih (a + 1) (fun x h1 h2 => h x (by omega) (by omega)),
        show a + 1 + (k : Int) = a + ((k + 1 : Nat) : Int) by omega]
    · rw [calDateRange_nil a e (by omega), calDateRange_nil _ e (by omega)]

theorem busRangeLoop_spec (fuel : Nat) (e : Int) : ∀ (f : Nat) (s : Int) (acc l : List Int),
    c.isBus s = true → c.busRangeLoop fuel e f s acc = some l →
    l = acc ++ (calDateRange s e).filter c.isBus := by
  intro f
  induction f with
  | zero => intro s acc l _ h; cases h
  | succ f ih =>
    intro s acc l hs h
    unfold busRangeLoop at h
    by_cases hle : s ≤ e
    · rw [if_pos hle] at h
      cases hr : c.rollFwd fuel (s + 1) with
      | none => rw [hr] at h; cases h
      | some s' =>
        rw [hr] at h
        obtain ⟨a1, _, a3, a4⟩ := (c.rollFwd_eq_some fuel (s + 1) s').1 hr
        -- no business day in `[s + 1, s')`
        rw [ih s' (acc ++ [s]) l a3 h, calDateRange_cons s e hle, List.filter_cons, hs, if_pos rfl,
          List.append_assoc, List.singleton_append,
          c.filter_calDateRange_skip e (s' - (s + 1)).toNat (s + 1) fun x h1 h2 => a4 x h1 (by omega),
          show s + 1 + ((s' - (s + 1)).toNat : Int) = s' by omega]
    · rw [if_neg hle] at h
      cases h
      rw [calDateRange_nil s e (by omega), List.filter_nil, List.append_nil]

end DR
end Rateslib
