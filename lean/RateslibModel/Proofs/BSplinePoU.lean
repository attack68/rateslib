/-
One step of the Cox–de Boor recursion on a knot span, for a linear combination of the basis functions
(de Boor's step), and what follows from it by induction on the order: any coefficient family that loses a
factor `c` per order sums to a power of `c`, on a span and on the whole domain.  Partition of unity and
Marsden's identity are instances.
-/
import RateslibModel.Proofs.BSpline
namespace Rateslib
open Finset

/-- one term of de Boor's step: the two order-(k+1) weights that meet the same `B_{i,k}` (here `B`) share the
width `t_{i+k} − t_i`; `a_im1` is `a_{i−1}` -/
theorem span_step_term (x t_i t_ik a_i a_im1 a'_i c B : ℝ) (hd : t_ik - t_i ≠ 0)
    (ha : (x - t_i) * a_i + (t_ik - x) * a_im1 = c * (t_ik - t_i) * a'_i) :
    a_i * ((x - t_i) / (t_ik - t_i) * B) + a_im1 * ((t_ik - x) / (t_ik - t_i) * B) = c * (a'_i * B) := by
  field_simp
  linear_combination B * ha

/-- On the span `[t_{p+k}, t_{p+k+1})` the `k+1` functions of order `k+1` alive there are `B_p … B_{p+k}`.
If the coefficients `a` (order `k+1`) and `a'` (order `k`) satisfy
`(x − t_i)·a_i + (t_{i+k} − x)·a_{i−1} = c·(t_{i+k} − t_i)·a'_i`, the combination loses one order and gains
the factor `c`. -/
theorem genB_span_step (t : List ℝ) (hs : SortedKnots t) (x : ℝ) (a a' : Nat → ℝ) (c : ℝ) (k p : Nat)
    (hk : k ≠ 0) (hlen : p + k + (k + 1) < t.length) (h1 : knot t (p + k) ≤ x) (h2 : x < knot t (p + k + 1))
    (ha : ∀ r, (x - knot t (p + r + 1)) * a (p + r + 1) + (knot t (p + r + (k + 1)) - x) * a (p + r)
      = c * (knot t (p + r + (k + 1)) - knot t (p + r + 1)) * a' (p + r + 1)) :
    ∑ r ∈ range (k + 1), a (p + r) * genB (bR t) t x (k + 1) (p + r)
      = c * ∑ r ∈ range k, a' (p + r + 1) * genB (bR t) t x k (p + r + 1) := by
  simp only [genB_succ _ _ _ _ _ hk, mul_add]
  -- the first function of order `k` is dead on the span (left sum), and so is the one after the last
  rw [sum_add_distrib, sum_range_succ', sum_range_succ _ k,
    genB_bR_support t hs x k (p + 0) (by omega) (Or.inr h1),
    genB_bR_support t hs x k (p + k + 1) (by omega) (Or.inl h2),
    mul_zero, mul_zero, mul_zero, mul_zero, add_zero, add_zero, ← sum_add_distrib, mul_sum]
  refine sum_congr rfl fun r hr => ?_
  rw [mem_range] at hr
  have e : p + (r + 1) + k = p + r + (k + 1) := by omega
  -- positive width: t_{i} ≤ t_{p+k} ≤ x < t_{p+k+1} ≤ t_{i+k}
  have hw1 : knot t (p + r + 1) ≤ knot t (p + k) := hs _ _ (by omega) (by omega)
  have hw2 : knot t (p + k + 1) ≤ knot t (p + r + (k + 1)) := hs _ _ (by omega) (by omega)
  have hd : knot t (p + r + (k + 1)) - knot t (p + r + 1) ≠ 0 := by linarith
  rw [e]
  exact span_step_term _ _ _ _ _ _ _ _ hd (ha r)

/-- coefficient families `a n` (for order `n+1`) with `a 0 = 1` that lose the factor `c` per order -/
structure Reduces (t : List ℝ) (x c : ℝ) (a : Nat → Nat → ℝ) : Prop where
  zero : ∀ i, a 0 i = 1
  step : ∀ n i, (x - knot t (i + 1)) * a (n + 1) (i + 1) + (knot t (i + (n + 1 + 1)) - x) * a (n + 1) i
    = c * (knot t (i + (n + 1 + 1)) - knot t (i + 1)) * a n (i + 1)

/-- … sum to `c^n` against the functions of order `n+1` alive on a span (every knot multiplicity). -/
theorem genB_window_sum (t : List ℝ) (hs : SortedKnots t) (x c : ℝ) (a : Nat → Nat → ℝ)
    (H : Reduces t x c a) : ∀ n p, p + n + (n + 1) < t.length → knot t (p + n) ≤ x → x < knot t (p + n + 1) →
      ∑ r ∈ range (n + 1), a n (p + r) * genB (bR t) t x (n + 1) (p + r) = c ^ n := by
  intro n
  induction n with
  | zero =>
    intro p _ h1 h2
    rw [sum_range_one, H.zero, genB_one, bR, if_pos ⟨h1, h2⟩, one_mul, pow_zero]
  | succ n ih =>
    intro p hlen h1 h2
    -- de Boor's step leaves `c` times the order-`n+1` sum over `B_{p+1} … B_{p+1+n}`, on the same span:
    -- the induction hypothesis for the window at `p+1`, up to `p + 1 + r = p + r + 1`
    rw [genB_span_step t hs x (a (n + 1)) (a n) c (n + 1) p (by omega) hlen h1 h2 (fun r => H.step n (p + r)),
      pow_succ', ← ih (p + 1) (by omega) (by rwa [Nat.add_right_comm]) (by rwa [Nat.add_right_comm p 1])]
    simp only [Nat.add_right_comm p 1]

/-- the family behind partition of unity: for constant coefficients 1 the two weights of `Reduces.step`
add up to the width, so the factor lost per order is 1 -/
theorem reduces_one (t : List ℝ) (x : ℝ) : Reduces t x 1 fun _ _ => 1 :=
  ⟨fun _ => rfl, fun _ _ => by ring⟩

/-- sum over `range n` of a function supported on `[a, a+K)` -/
theorem sum_window (g : Nat → ℝ) (n a K : Nat) (haK : a + K ≤ n)
    (h0 : ∀ i, i < n → (i < a ∨ a + K ≤ i) → g i = 0) :
    ∑ i ∈ range n, g i = ∑ r ∈ range K, g (a + r) := by
  rw [range_eq_Ico, ← sum_Ico_consecutive g (Nat.zero_le a) (by omega : a ≤ n),
    ← sum_Ico_consecutive g (by omega : a ≤ a + K) haK]
  have z1 : ∑ i ∈ Ico 0 a, g i = 0 := by
    apply sum_eq_zero; intro i hi; rw [mem_Ico] at hi; exact h0 i (by omega) (Or.inl hi.2)
  have z2 : ∑ i ∈ Ico (a + K) n, g i = 0 := by
    apply sum_eq_zero; intro i hi; rw [mem_Ico] at hi; exact h0 i hi.2 (Or.inr hi.1)
  rw [z1, z2, zero_add, add_zero, sum_Ico_eq_sum_range]
  have : a + K - a = K := by omega
  rw [this]

/-- a point of the domain strictly before the last knot lies in a non-empty span `[t_{p+n}, t_{p+n+1})` on
which exactly the functions `B_p … B_{p+n}` of order `n+1` are alive -/
theorem exists_span (t : List ℝ) (n : Nat) (he : EndKnots t (n + 1)) (x : ℝ) (hx0 : knot t 0 ≤ x)
    (hlt : x < knot t (t.length - 1)) :
    ∃ p, p + n + (n + 1) < t.length ∧ knot t (p + n) ≤ x ∧ x < knot t (p + n + 1) := by
  obtain ⟨hlen, e0, eL⟩ := he
  -- the span index: the greatest j ≤ N-1 with t_j ≤ x, where N = len − (n+1)
  have hPK : knot t n ≤ x := e0 ▸ hx0
  have hb : n ≤ t.length - (n + 1) - 1 := by omega
  have hjge := Nat.le_findGreatest (P := fun j => knot t j ≤ x) hb hPK
  have hjle := Nat.findGreatest_le (P := fun j => knot t j ≤ x) (t.length - (n + 1) - 1)
  have hjspec := Nat.findGreatest_spec (P := fun j => knot t j ≤ x) hb hPK
  have hjnext : x < knot t (Nat.findGreatest (fun j => knot t j ≤ x) (t.length - (n + 1) - 1) + 1) := by
    by_contra hcon
    push Not at hcon
    by_cases hjn : Nat.findGreatest (fun j => knot t j ≤ x) (t.length - (n + 1) - 1) = t.length - (n + 1) - 1
    · rw [hjn, show t.length - (n + 1) - 1 + 1 = t.length - (n + 1) by omega, eL] at hcon
      exact absurd hlt (not_lt.2 hcon)
    · exact Nat.findGreatest_is_greatest (P := fun j => knot t j ≤ x) (n := t.length - (n + 1) - 1)
        (Nat.lt_succ_self _) (by omega) hcon
  generalize Nat.findGreatest (fun j => knot t j ≤ x) (t.length - (n + 1) - 1) = j at hjge hjle hjspec hjnext
  exact ⟨j - n, by omega, by rwa [Nat.sub_add_cancel hjge], by rwa [Nat.sub_add_cancel hjge]⟩

/-- the sum over all basis functions, strictly before the last knot, of a coefficient family that loses a
factor `c` per order -/
theorem bsplev_sum_domain (t : List ℝ) (hs : SortedKnots t) (n : Nat) (he : EndKnots t (n + 1)) (x : ℝ)
    (hx0 : knot t 0 ≤ x) (hlt : x < knot t (t.length - 1)) (c : ℝ) (a : Nat → Nat → ℝ) (H : Reduces t x c a) :
    ∑ i ∈ range (t.length - (n + 1)), a n i * bsplev t x (n + 1) i (n + 1) = c ^ n := by
  obtain ⟨p, hp, h1, h2⟩ := exists_span t n he x hx0 hlt
  rw [← genB_window_sum t hs x c a H n p hp h1 h2,
    sum_window (fun i => a n i * bsplev t x (n + 1) i (n + 1)) _ p (n + 1) (by omega)]
  · refine sum_congr rfl fun r hr => ?_
    rw [mem_range] at hr
    rw [bsplev_eq_genB t hs x hlt _ _ _ (by omega)]
  · intro i hi hout
    rw [bsplev_eq_genB t hs x hlt _ _ _ (by omega), genB_bR_support t hs x _ _ (by omega), mul_zero]
    rcases hout with h | h
    · exact Or.inr ((hs _ _ (by omega) (by omega)).trans h1)
    · exact Or.inl (h2.trans_le (hs _ _ (by omega) (by omega)))

/-- at the last knot only the last function counts -/
theorem bsplev_sum_right_end (t : List ℝ) (hs : SortedKnots t) (K : Nat) (hK : 1 ≤ K)
    (hlen : 2 * K ≤ t.length) (a : Nat → ℝ) :
    ∑ i ∈ range (t.length - K), a i * bsplev t (knot t (t.length - 1)) K i K = a (t.length - K - 1) := by
  rw [sum_eq_single_of_mem (t.length - K - 1) (mem_range.2 (by omega)),
    bsplev_last_one t hs K _ K hK (by omega) (by rw [show t.length - K - 1 + K = t.length - 1 by omega])
      (le_refl _), mul_one]
  intro i hi hne
  rw [mem_range] at hi
  rw [bsplev_last_zero t hs K i K (by omega) (by omega), mul_zero]

end Rateslib
