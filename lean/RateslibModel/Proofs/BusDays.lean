/-
Counting business days: `count a b` over `(a, b]`, the counter loops `stepFwd`/`stepBwd` of `add_bus_days`
(each step passes exactly one business day; the two are mutually inverse), and `add_bus_days` itself from
a business day.  Backward facts come from the forward ones in `c.neg`.
-/
import RateslibModel.Proofs.Roll
namespace Rateslib
namespace DR

variable (c : DR)

/-- number of business days among `a+1 … a+k` -/
def countN (a : Int) : Nat → Nat
  | 0 => 0
  | k + 1 => countN a k + (if c.isBus (a + ((k + 1 : Nat) : Int)) then 1 else 0)

/-- number of business days in the half-open interval `(a, b]` -/
def count (a b : Int) : Nat := c.countN a (b - a).toNat

theorem countN_add (a : Int) (j : Nat) : ∀ k : Nat,
    c.countN a (j + k) = c.countN a j + c.countN (a + (j : Int)) k := by
  intro k
  induction k with
  | zero => simp [countN]
  | succ k ih =>
    rw [← Nat.add_assoc, countN, ih, countN]
    have : a + ((j + k + 1 : Nat) : Int) = a + (j : Int) + ((k + 1 : Nat) : Int) := by omega
    rw [this]
    omega

/-- `countN` peeled at its first day `a + 1`; the definition peels the last -/
theorem countN_succ' (a : Int) (n : Nat) :
    c.countN a (n + 1) = (if c.isBus (a + 1) then 1 else 0) + c.countN (a + 1) n := by
  rw [Nat.add_comm, countN_add]
  simp [countN]

theorem count_add (a b d : Int) (h1 : a ≤ b) (h2 : b ≤ d) :
    c.count a d = c.count a b + c.count b d := by
  unfold count
  have h : (d - a).toNat = (b - a).toNat + (d - b).toNat := by omega
  rw [h, countN_add]
  have : a + ((b - a).toNat : Int) = b := by omega
  rw [this]

theorem countN_zero (a : Int) : ∀ k : Nat, (∀ x, a < x → x ≤ a + (k : Int) → c.isBus x = false) →
    c.countN a k = 0 := by
  intro k
  induction k with
  | zero => intro _; rfl
  | succ k ih =>
    intro h
    rw [countN, ih (fun x h1 h2 => h x h1 (by omega)), h _ (by omega) (by omega)]
    simp

theorem count_pred_self (x : Int) : c.count (x - 1) x = if c.isBus x then 1 else 0 := by
  unfold count
  rw [show (x - (x - 1)).toNat = 1 by omega]
  simp [countN]

/-- between a day and the next business day strictly after it lies exactly one business day
(counting the result, not the start) -/
theorem count_next (fuel : Nat) (d d' : Int) (h : c.rollFwd fuel (d + 1) = some d') :
    d < d' ∧ c.isBus d' = true ∧ c.count d d' = 1 := by
  obtain ⟨a1, _, a3, a4⟩ := (c.rollFwd_eq_some fuel (d + 1) d').1 h
  refine ⟨by omega, a3, ?_⟩
  have hz : c.count d (d' - 1) = 0 := c.countN_zero d _ (fun x h1 h2 => a4 x (by omega) (by omega))
  rw [c.count_add d (d' - 1) d' (by omega) (by omega), hz, count_pred_self, a3, if_pos rfl]

/-- both ends being business days, `[a, b)` holds as many of them as `(a, b]` -/
theorem count_pred_pred (a b : Int) (h : a ≤ b) (ha : c.isBus a = true) (hb : c.isBus b = true) :
    c.count (a - 1) (b - 1) = c.count a b := by
  have h1 := c.count_add (a - 1) a b (by omega) h
  have h2 := c.count_add (a - 1) (b - 1) b (by omega) (by omega)
  rw [count_pred_self, ha, if_pos rfl] at h1
  rw [count_pred_self, hb, if_pos rfl] at h2
  omega

theorem stepFwd_count (fuel : Nat) : ∀ (k : Nat) (d r : Int), c.stepFwd fuel k d = some r →
    d ≤ r ∧ c.count d r = k ∧ (c.isBus d = true → c.isBus r = true) := by
  intro k
  induction k with
  | zero =>
    intro d r h
    simp only [stepFwd] at h
    cases h
    exact ⟨by omega, by simp [count, countN], id⟩
  | succ k ih =>
    intro d r h
    unfold stepFwd at h
    cases hr : c.rollFwd fuel (d + 1) with
    | none => rw [hr] at h; cases h
    | some d' =>
      rw [hr] at h
      obtain ⟨a1, a2, a3⟩ := c.count_next fuel d d' hr
      obtain ⟨b1, b2, b3⟩ := ih d' r h
      refine ⟨by omega, ?_, fun _ => b3 a2⟩
      rw [c.count_add d d' r (by omega) b1]
      omega

theorem prev_of_next (fuel : Nat) (d d' : Int) (hd : c.isBus d = true)
    (h : c.rollFwd fuel (d + 1) = some d') : c.rollBwd fuel (d' - 1) = some d := by
  obtain ⟨a1, a2, _, a4⟩ := (c.rollFwd_eq_some fuel (d + 1) d').1 h
  exact (c.rollBwd_eq_some fuel (d' - 1) d).2
    ⟨by omega, by omega, hd, fun y h1 h2 => a4 y (by omega) (by omega)⟩

theorem stepBwd_snoc (fuel : Nat) (k : Nat) (r : Int) :
    c.stepBwd fuel (k + 1) r = (c.stepBwd fuel k r).bind fun x => c.rollBwd fuel (x - 1) := by
  induction k generalizing r with
  | zero =>
    simp only [stepBwd, Option.bind_some]
    cases c.rollBwd fuel (r - 1) <;> rfl
  | succ k ih =>
    rw [stepBwd]
    conv => rhs; rw [stepBwd]
    cases c.rollBwd fuel (r - 1) with
    | none => rfl
    | some r' => exact ih r'

theorem stepBwd_of_stepFwd (fuel : Nat) : ∀ (k : Nat) (d r : Int), c.isBus d = true →
    c.stepFwd fuel k d = some r → c.stepBwd fuel k r = some d := by
  intro k
  induction k with
  | zero =>
    intro d r _ h
    simp only [stepFwd] at h
    cases h
    rfl
  | succ k ih =>
    intro d r hd h
    unfold stepFwd at h
    cases hr : c.rollFwd fuel (d + 1) with
    | none => rw [hr] at h; cases h
    | some d' =>
      rw [hr] at h
      have hd' := (c.count_next fuel d d' hr).2.1
      rw [stepBwd_snoc, ih d' r hd' h]
      exact c.prev_of_next fuel d d' hd hr

theorem stepBwd_neg (fuel : Nat) (k : Nat) (d : Int) :
    c.stepBwd fuel k d = (c.neg.stepFwd fuel k (-d)).map (- ·) := by
  induction k generalizing d with
  | zero => simp only [stepBwd, stepFwd, Option.map_some, Int.neg_neg]
  | succ k ih =>
    have h : -d + 1 = -(d - 1) := by omega
    unfold stepBwd stepFwd
    rw [h, rollBwd_neg]
    cases c.neg.rollFwd fuel (-(d - 1)) with
    | none => rfl
    | some nd => simp only [Option.map_some, ih, Int.neg_neg]

theorem stepFwd_of_stepBwd (fuel : Nat) (k : Nat) (d r : Int) (hd : c.isBus d = true)
    (h : c.stepBwd fuel k d = some r) : c.stepFwd fuel k r = some d := by
  rw [stepBwd_neg, map_neg_eq_some] at h
  have := c.neg.stepBwd_of_stepFwd fuel k (-d) (-r) (by rwa [neg_isBus, Int.neg_neg]) h
  rwa [stepBwd_neg, map_neg_eq_some, DR.neg_neg, Int.neg_neg, Int.neg_neg] at this

/-- `k` steps back from a business day `d` end on a business day `r` from which `k` steps forward lead
to `d` again (`stepFwd_of_stepBwd`): the count is that of the forward walk -/
theorem stepBwd_count (fuel : Nat) (k : Nat) (d r : Int) (hd : c.isBus d = true)
    (h : c.stepBwd fuel k d = some r) :
    r ≤ d ∧ c.count (r - 1) (d - 1) = k ∧ c.isBus r = true := by
  obtain ⟨h1, h2, -⟩ := c.stepFwd_count fuel k r d (c.stepFwd_of_stepBwd fuel k d r hd h)
  rw [stepBwd_neg, map_neg_eq_some] at h
  have hr := (c.neg.stepFwd_count fuel k (-d) (-r) h).2.2 (by rwa [neg_isBus, Int.neg_neg])
  rw [neg_isBus, Int.neg_neg] at hr
  exact ⟨h1, by rw [c.count_pred_pred r d h1 hr hd, h2], hr⟩

/-- `add_bus_days` from a business day, its two `match`es as one `bind`: `|n|` steps of the counter loop
in the direction of the sign of `n`, then, if settlement is enforced, the settled roll the same way -/
theorem addBusDays_of_isBus (fuel : Nat) (d n : Int) (s : Bool) (h : c.isBus d = true) :
    c.addBusDays fuel d n s = .ok
      (if n < 0 then
        (c.stepBwd fuel n.natAbs d).bind fun nd => if s then c.rollBwdSettled fuel nd else some nd
       else
        (c.stepFwd fuel n.natAbs d).bind fun nd => if s then c.rollFwdSettled fuel nd else some nd) := by
  unfold addBusDays isNonBus
  rw [h, Bool.not_true, if_neg Bool.false_ne_true]
  by_cases hn : n < 0
  · rw [if_pos hn, if_pos hn]
    cases c.stepBwd fuel n.natAbs d <;> cases s <;> rfl
  · rw [if_neg hn, if_neg hn]
    cases c.stepFwd fuel n.natAbs d <;> cases s <;> rfl

/-- without settlement a returned date is the counter loop's result, from a business-day start -/
theorem addBusDays_false_some (fuel : Nat) (d n r : Int)
    (h : c.addBusDays fuel d n false = .ok (some r)) :
    c.isBus d = true ∧
      (if n < 0 then c.stepBwd fuel n.natAbs d else c.stepFwd fuel n.natAbs d) = some r := by
  cases hb : c.isBus d with
  | false =>
    unfold addBusDays isNonBus at h
    rw [hb] at h
    cases h
  | true =>
    rw [c.addBusDays_of_isBus fuel d n false hb] at h
    injection h with h
    exact ⟨rfl, by simpa using h⟩

end DR
end Rateslib
