/-
The bisection `indexLeftAux` returns the clamped bracketing interval (`IsLeftIndex`).  That the interval is
unique is `C11_index_left_unique` (Props/C11.lean).
-/
import RateslibModel.Model.Curve
import Mathlib.Order.Basic
namespace Rateslib

/-- `i` is the interval index for `v` in the strictly increasing list `xs`: the interval whose right
end is the first node on or after `v`, clamped to the first and last intervals. -/
def IsLeftIndex (xs : List Int) (v : Int) (i : Nat) : Prop :=
  i + 1 < xs.length ∧ (i = 0 ∨ xs.getD i 0 < v) ∧ (i + 2 = xs.length ∨ v ≤ xs.getD (i + 1) 0)

theorem getD_take (l : List Int) (k i : Nat) (h : i < k) : (l.take k).getD i 0 = l.getD i 0 := by
  rw [List.getD_eq_getElem?_getD, List.getElem?_take_of_lt h, List.getD_eq_getElem?_getD]

theorem getD_drop (l : List Int) (k i : Nat) : (l.drop k).getD i 0 = l.getD (k + i) 0 := by
  rw [List.getD_eq_getElem?_getD, List.getElem?_drop, List.getD_eq_getElem?_getD]

/-- one step of the bisection on three or more nodes, `s` the split point -/
theorem indexLeftAux_step {β : Type} (le eq : β → β → Bool) (fuel : Nat) (l : List β) (v : β) (lc : Nat)
    (h3 : 3 ≤ l.length) (s : Nat) (hs : s = (l.length - 1) / 2) (hl : s < l.length) :
    indexLeftAux le eq (fuel + 1) l v lc =
      if l.length == 3 && eq v l[s] then some lc
      else if le v l[s] then indexLeftAux le eq fuel (l.take (s + 1)) v lc
      else indexLeftAux le eq fuel (l.drop s) v (lc + s) := by
  rw [indexLeftAux]
  split
  · omega
  · omega
  · omega
  · simp only [← hs, List.getElem?_eq_getElem hl]

theorem IsLeftIndex.of_take {l : List Int} {v : Int} {s i : Nat} (hs : s < l.length)
    (hv : v ≤ l.getD s 0) (h : IsLeftIndex (l.take (s + 1)) v i) : IsLeftIndex l v i := by
  unfold IsLeftIndex at h ⊢
  rw [List.length_take, Nat.min_eq_left hs] at h
  obtain ⟨h1, h2, h3⟩ := h
  rw [getD_take l _ i (by omega)] at h2
  refine ⟨by omega, h2, Or.inr ?_⟩
  rcases h3 with h3 | h3
  · rwa [show i + 1 = s by omega]
  · rwa [getD_take l _ _ (by omega)] at h3

theorem IsLeftIndex.of_drop {l : List Int} {v : Int} {s j : Nat}
    (hv : l.getD s 0 < v) (h : IsLeftIndex (l.drop s) v j) : IsLeftIndex l v (s + j) := by
  unfold IsLeftIndex at h ⊢
  rw [List.length_drop, getD_drop, getD_drop, ← Nat.add_assoc] at h
  obtain ⟨h1, h2, h3⟩ := h
  refine ⟨by omega, Or.inr ?_, by omega⟩
  rcases h2 with rfl | h2
  · exact hv
  · exact h2

theorem indexLeftAux_spec : ∀ (fuel : Nat) (l : List Int) (v : Int) (lc : Nat),
    2 ≤ l.length → l.length ≤ fuel →
    ∃ i, indexLeftAux (fun a b => decide (a ≤ b)) (fun a b => decide (a = b)) fuel l v lc = some (lc + i)
      ∧ IsLeftIndex l v i := by
  intro fuel
  induction fuel with
  | zero => intro l v lc h2 hf; omega
  | succ fuel ih =>
    intro l v lc h2 hf
    by_cases h3 : l.length = 2
    · exact ⟨0, by unfold indexLeftAux; rw [h3]; rfl, by unfold IsLeftIndex; omega⟩
    obtain ⟨s, hs⟩ : ∃ s, s = (l.length - 1) / 2 := ⟨_, rfl⟩
    -- all that is used of the split point; with the division left in the context `omega` is slow
    have hs1 : 1 ≤ s ∧ s + 2 ≤ l.length ∧ (l.length = 3 → s = 1) := by omega
    obtain ⟨hs1, hs2, hs3⟩ := hs1
    have hl : s < l.length := by omega
    rw [indexLeftAux_step _ _ fuel l v lc (by omega) s hs hl]
    clear hs
    simp only [Bool.and_eq_true, beq_iff_eq, decide_eq_true_eq, List.getElem_eq_getD (0 : Int)]
    split_ifs with h1 hle
    · obtain rfl := hs3 h1.1
      exact ⟨0, rfl, by omega, Or.inl rfl, Or.inr (Int.le_of_eq h1.2)⟩
    · have hlen : (l.take (s + 1)).length = s + 1 := by rw [List.length_take]; omega
      obtain ⟨i, hi, hspec⟩ := ih (l.take (s + 1)) v lc (by omega) (by omega)
      exact ⟨i, hi, hspec.of_take hl hle⟩
    · have hlen : (l.drop s).length = l.length - s := List.length_drop
      obtain ⟨j, hj, hspec⟩ := ih (l.drop s) v (lc + s) (by omega) (by omega)
      exact ⟨s + j, by rw [hj, Nat.add_assoc], hspec.of_drop (by omega)⟩

end Rateslib
