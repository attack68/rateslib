/-
Second-order jets along a direction form the commutative ring ℝ[ε]/(ε³) (`J2`, coefficients of 1, ε, ε²).
The directional 2-jet `dirJet α β v w` of list-level second-order numbers is a homomorphism of the solver's
arithmetic into it, so the solver (`C13_dual2_matrix`) and the spline evaluation with second-order
coefficients and abscissa (`C15_dual2_abscissa_dual2_coeffs`) hold as identities of 2-jets along every direction.
-/
import RateslibModel.Proofs.LinHom
import RateslibModel.Model.Spline
import RateslibModel.Analysis.Refine2
import Mathlib.Algebra.Ring.MinimalAxioms
import Mathlib.Analysis.SpecialFunctions.Pow.Real
namespace Rateslib
open Expr

namespace J2

instance : Zero J2 := ⟨⟨0, 0, 0⟩⟩
instance : One J2 := ⟨⟨1, 0, 0⟩⟩
instance : Add J2 := ⟨fun a b => ⟨a.v0 + b.v0, a.v1 + b.v1, a.v2 + b.v2⟩⟩
instance : Neg J2 := ⟨fun a => ⟨-a.v0, -a.v1, -a.v2⟩⟩
noncomputable instance : Mul J2 := ⟨mulJ2⟩

@[simp] theorem zero_v0 : (0 : J2).v0 = 0 := rfl
@[simp] theorem zero_v1 : (0 : J2).v1 = 0 := rfl
@[simp] theorem zero_v2 : (0 : J2).v2 = 0 := rfl
@[simp] theorem one_v0 : (1 : J2).v0 = 1 := rfl
@[simp] theorem one_v1 : (1 : J2).v1 = 0 := rfl
@[simp] theorem one_v2 : (1 : J2).v2 = 0 := rfl
@[simp] theorem add_v0 (a b : J2) : (a + b).v0 = a.v0 + b.v0 := rfl
@[simp] theorem add_v1 (a b : J2) : (a + b).v1 = a.v1 + b.v1 := rfl
@[simp] theorem add_v2 (a b : J2) : (a + b).v2 = a.v2 + b.v2 := rfl
@[simp] theorem neg_v0 (a : J2) : (-a).v0 = -a.v0 := rfl
@[simp] theorem neg_v1 (a : J2) : (-a).v1 = -a.v1 := rfl
@[simp] theorem neg_v2 (a : J2) : (-a).v2 = -a.v2 := rfl
@[simp] theorem mul_v0 (a b : J2) : (a * b).v0 = a.v0 * b.v0 := rfl
@[simp] theorem mul_v1 (a b : J2) : (a * b).v1 = a.v1 * b.v0 + b.v1 * a.v0 := rfl
@[simp] theorem mul_v2 (a b : J2) :
    (a * b).v2 = (a.v2 * b.v0 + b.v2 * a.v0) + 1 / 2 * (a.v1 * b.v1 + b.v1 * a.v1) := rfl

noncomputable instance : CommRing J2 :=
  -- every law component by component: the `@[simp]` projections above, then `ring` in ℝ
  CommRing.ofMinimalAxioms
    (add_assoc := fun a b c => by apply J2.ext' <;> simp <;> ring)
    (zero_add := fun a => by apply J2.ext' <;> simp)
    (neg_add_cancel := fun a => by apply J2.ext' <;> simp)
    (mul_assoc := fun a b c => by apply J2.ext' <;> simp <;> ring)
    (mul_comm := fun a b => by apply J2.ext' <;> simp <;> ring)
    (one_mul := fun a => by apply J2.ext' <;> simp)
    (left_distrib := fun a b c => by apply J2.ext' <;> simp <;> ring)

@[simp] theorem sub_v0 (a b : J2) : (a - b).v0 = a.v0 - b.v0 := rfl
@[simp] theorem sub_v1 (a b : J2) : (a - b).v1 = a.v1 - b.v1 := rfl
@[simp] theorem sub_v2 (a b : J2) : (a - b).v2 = a.v2 - b.v2 := rfl

/-- the reciprocal jet (`x.pow(-1)`) -/
noncomputable def inv (b : J2) : J2 :=
  ⟨b.v0⁻¹, -b.v1 * (b.v0⁻¹) ^ 2, -b.v2 * (b.v0⁻¹) ^ 2 + b.v1 * b.v1 * (b.v0⁻¹) ^ 3⟩

/-- division as the code performs it: multiplication by the reciprocal power -/
noncomputable instance : Div J2 := ⟨fun a b => a * inv b⟩

theorem inv_mul_cancel' (p : J2) (hp : p.v0 ≠ 0) : inv p * p = 1 := by
  apply J2.ext'
  · simp [inv, hp]
  · simp only [mul_v1, inv, one_v1]; field_simp; ring
  · simp only [mul_v2, inv, one_v2]; field_simp; ring

/-- a jet whose value is non-zero can be divided by -/
theorem good (p : J2) (hp : p.v0 ≠ 0) : Good p := by
  intro x
  show x * inv p * p = x
  rw [mul_assoc, inv_mul_cancel' p hp, mul_one]

end J2

/-- the pivot comparison on jets: by the magnitudes of the values -/
noncomputable def geJ (x y : J2) : Bool := !(Transc.ltb (absS x.v0) (absS y.v0))

@[reducible] noncomputable def linOpsJ : LinOps J2 := ringLinOps geJ
attribute [local instance] linOpsJ

theorem rpow_neg_two (r : ℝ) : r ^ ((-1 : ℝ) - 1) = (r⁻¹) ^ 2 := by
  have : ((-1 : ℝ) - 1) = ((-2 : ℤ) : ℝ) := by norm_num
  rw [this, Real.rpow_intCast]
  rw [zpow_neg, inv_pow]; rfl

theorem rpow_neg_three (r : ℝ) : r ^ ((-1 : ℝ) - 2) = (r⁻¹) ^ 3 := by
  have : ((-1 : ℝ) - 2) = ((-3 : ℤ) : ℝ) := by norm_num
  rw [this, Real.rpow_intCast]
  rw [zpow_neg, inv_pow]; rfl

theorem powJ2_neg_one (x : J2) : powJ2 x (-1) = J2.inv x := by
  apply J2.ext'
  · exact Real.rpow_neg_one _
  · simp only [powJ2, J2.inv, rpow_neg_two]; ring
  · simp only [powJ2, J2.inv, rpow_neg_two, rpow_neg_three]; ring

theorem dirJet_linHom (α β : ℝ) (v w : String) :
    @LinHom (Dual2 ℝ) J2 linOpsDual2 linOpsJ (dirJet α β v w) Dual2.WF where
  zero := ⟨(Dual2.new_const_spec 0).1, dirJet_const 0 α β v w⟩
  add a b ha hb := add_dirJet a b ha hb α β v w
  sub a b ha hb := sub_dirJet a b ha hb α β v w
  mul a b ha hb := mul_dirJet a b ha hb α β v w
  div a b ha hb := by
    obtain ⟨wp, jp⟩ := pow_dirJet b hb (-1) α β v w
    obtain ⟨wm, jm⟩ := mul_dirJet a _ ha wp α β v w
    refine ⟨wm, ?_⟩
    show dirJet α β v w (Dual2.mul false a (Dual2.pow b (-1))) = dirJet α β v w a * J2.inv (dirJet α β v w b)
    rw [jm, jp, powJ2_neg_one]
    rfl
  -- `geJ` compares the magnitudes of `.v0`, and `(dirJet α β v w d).v0` is `d.real`
  absGe _ _ _ _ := rfl

theorem v0_linHom : @LinHom J2 ℝ linOpsJ (ringLinOps geR) J2.v0 (fun _ => True) where
  zero := ⟨trivial, rfl⟩
  add _ _ _ _ := ⟨trivial, rfl⟩
  sub _ _ _ _ := ⟨trivial, rfl⟩
  mul _ _ _ _ := ⟨trivial, rfl⟩
  div a b _ _ := ⟨trivial, (div_eq_mul_inv a.v0 b.v0).symm⟩
  absGe _ _ _ _ := rfl

/-- the 2-jet of a basis function composed with the 2-jet of the abscissa (Taylor to second order) -/
noncomputable def basisJet (t : List ℝ) (k m i : Nat) (x : J2) : J2 :=
  ⟨bspldnev t x.v0 m i k none, bspldnev t x.v0 (m + 1) i k none * x.v1,
   bspldnev t x.v0 (m + 1) i k none * x.v2 + 1 / 2 * bspldnev t x.v0 (m + 2) i k none * (x.v1 * x.v1)⟩

theorem bspldnevDual2_dirJet (t : List ℝ) (x : Dual2 ℝ) (hx : x.WF) (i k m : Nat) (α β : ℝ) (v w : String) :
    (bspldnevDual2 t x i k m).WF ∧
    dirJet α β v w (bspldnevDual2 t x i k m) = basisJet t k m i (dirJet α β v w x) := by
  have S : ChainSpec x (bspldnevDual2 t x i k m) (bspldnev t x.real m i k none)
      (bspldnev t x.real (m + 1) i k none) (half * bspldnev t x.real (m + 2) i k none) :=
    Dual2.chain_shape_spec x hx _ _ _
  refine chain_refines S α β v w (J2.ext' rfl rfl ?_)
  simp only [basisJet, half]; rfl

end Rateslib
