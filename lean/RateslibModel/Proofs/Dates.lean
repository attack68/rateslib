/-
Lemmas about the civil-calendar model: month lengths, the roll-day loops (`getRollByDay`, `getEom`),
the IMM table in closed form, and the year/month split of `add_months`.
-/
import RateslibModel.Model.Dates
namespace Rateslib

theorem toDay_add (y m d k : Int) : toDay y m (d + k) = toDay y m d + k := by
  simp only [toDay]; omega

theorem monthLen_bounds (y m : Int) (h1 : 1 ≤ m) (h2 : m ≤ 12) :
    28 ≤ monthLen y m ∧ monthLen y m ≤ 31 := by
  unfold monthLen
  split
  · split <;> omega
  · split
    · omega
    · rw [if_pos (by simp [h1, h2])]
      omega

theorem validYmd_iff (y m d : Int) :
    validYmd y m d = true ↔ 1 ≤ m ∧ m ≤ 12 ∧ 1 ≤ d ∧ d ≤ monthLen y m := by
  simp [validYmd, and_assoc]

/-- `get_roll_by_day` caps the requested day at the month length. -/
theorem getRollByDayAux_spec (y m : Int) (h1 : 1 ≤ m) (h2 : m ≤ 12) :
    ∀ (f : Nat) (day : Int), 1 ≤ day → day < f →
      getRollByDayAux y m f day = .ok ⟨y, m, min day (monthLen y m)⟩ := by
  have hb := monthLen_bounds y m h1 h2
  intro f
  induction f with
  | zero => intro day _ h; omega
  | succ f ih =>
    intro day hd1 hf
    unfold getRollByDayAux
    by_cases hv : validYmd y m day = true
    · rw [if_pos hv]
      have := (validYmd_iff y m day).1 hv
      have : min day (monthLen y m) = day := by omega
      rw [this]
    · rw [if_neg hv]
      have hgt : monthLen y m < day := by
        have : ¬ (1 ≤ m ∧ m ≤ 12 ∧ 1 ≤ day ∧ day ≤ monthLen y m) :=
          fun h => hv ((validYmd_iff y m day).2 h)
        omega
      have h28 : day > 28 := by omega
      rw [if_pos h28, ih (day - 1) (by omega) (by omega)]
      congr 2
      omega

theorem getRollByDay_spec (y m day : Int) (h1 : 1 ≤ m) (h2 : m ≤ 12) (hd1 : 1 ≤ day) :
    getRollByDay y m day = .ok ⟨y, m, min day (monthLen y m)⟩ := by
  unfold getRollByDay
  exact getRollByDayAux_spec y m h1 h2 _ day hd1 (by omega)

theorem getEom_spec (y m : Int) (h1 : 1 ≤ m) (h2 : m ≤ 12) :
    getEom y m = .ok ⟨y, m, monthLen y m⟩ := by
  have hb := monthLen_bounds y m h1 h2
  have hv : ∀ d, validYmd y m d = true ↔ (1 ≤ d ∧ d ≤ monthLen y m) := by
    intro d
    rw [validYmd_iff]
    omega
  have h : monthLen y m = 31 ∨ monthLen y m = 30 ∨ monthLen y m = 29 ∨ monthLen y m = 28 := by omega
  rcases h with h | h | h | h <;> simp [getEom, getEomAux, hv, h]

theorem weekday_bounds (n : Int) : 0 ≤ weekday n ∧ weekday n < 7 := by
  unfold weekday
  omega

/-- The seven-way table of `get_imm` in closed form: the 15th, moved on to the next Wednesday. -/
theorem getImm_eq (y m : Int) :
    getImm y m = ⟨y, m, 15 + (2 - weekday (toDay y m 1)) % 7⟩ := by
  unfold getImm
  have hw := weekday_bounds (toDay y m 1)
  generalize weekday (toDay y m 1) = w at hw ⊢
  have : w = 0 ∨ w = 1 ∨ w = 2 ∨ w = 3 ∨ w = 4 ∨ w = 5 ∨ w = 6 := by omega
  rcases this with rfl | rfl | rfl | rfl | rfl | rfl | rfl <;> rfl

/-- `|k| / 12 · sign k`, the year part of `add_months`, is the quotient of `k` by 12 rounded towards
zero, so the month part `k - yr · 12` keeps the sign of `k` and stays within a year. -/
theorem addMonths_rem_bounds (k : Int) :
    -12 < k - ((k.natAbs / 12 : Nat) : Int) * k.sign * 12 ∧
      k - ((k.natAbs / 12 : Nat) : Int) * k.sign * 12 < 12 := by
  rcases Int.lt_trichotomy k 0 with h | rfl | h
  · rw [Int.sign_eq_neg_one_of_neg h]
    omega
  · decide
  · rw [Int.sign_eq_one_of_pos h]
    omega

/-- every seven consecutive days hold one of each weekday -/
theorem exists_weekday (x w : Int) (hw : 0 ≤ w ∧ w < 7) : ∃ e, x ≤ e ∧ e < x + 7 ∧ weekday e = w :=
  ⟨x + (w - weekday x) % 7, by unfold weekday; omega⟩

end Rateslib
