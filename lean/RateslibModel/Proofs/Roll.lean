/-
The search loops of `DateRoll`: `rollFwd` finds the first business day on or after a date, the settlement
loop the first eligible one; fuel suffices when such a day is within reach.  The backward loops are the
forward loops of the calendar read backwards (`DR.neg`), and their facts are obtained that way.
-/
import RateslibModel.Model.Cal
namespace Rateslib
namespace DR

variable (c : DR)

/-- A date is eligible if it is a business day and, when settlement is enforced, a settlement day. -/
def Elig (s : Bool) (d : Int) : Prop := c.isBus d = true ∧ (s = true → c.isSettlement d = true)

instance (s : Bool) (d : Int) : Decidable (c.Elig s d) := by unfold Elig; infer_instance

theorem rollFwd_eq_some (fuel : Nat) (d r : Int) : c.rollFwd fuel d = some r ↔
    d ≤ r ∧ r < d + fuel ∧ c.isBus r = true ∧ ∀ x, d ≤ x → x < r → c.isBus x = false := by
  induction fuel generalizing d with
  | zero => exact ⟨fun h => (by cases h), fun h => (by omega)⟩
  | succ f ih =>
    unfold rollFwd
    by_cases hb : c.isBus d = true
    · rw [if_pos hb, Option.some.injEq]
      refine ⟨fun h => h ▸ ⟨by omega, by omega, hb, fun x _ _ => by omega⟩,
        fun ⟨h1, _, _, h4⟩ => ?_⟩
      by_cases hlt : d < r
      · rw [h4 d (by omega) hlt] at hb
        cases hb
      · omega
    · rw [if_neg hb, ih]
      refine ⟨fun ⟨h1, h2, h3, h4⟩ => ⟨by omega, by omega, h3, fun x hx1 hx2 => ?_⟩,
        fun ⟨h1, h2, h3, h4⟩ => ?_⟩
      · by_cases hxd : x = d
        · simpa [hxd] using hb
        · exact h4 x (by omega) hx2
      · have : r ≠ d := fun h => hb (h ▸ h3)
        exact ⟨by omega, by omega, h3, fun x hx1 hx2 => h4 x (by omega) hx2⟩

/-- a business day `e` within reach: the search returns, and not past `e` -/
theorem rollFwd_exists : ∀ (fuel : Nat) (d e : Int), d ≤ e → e < d + fuel → c.isBus e = true →
    ∃ r, c.rollFwd fuel d = some r ∧ d ≤ r ∧ r ≤ e := by
  intro fuel
  induction fuel with
  | zero => intro d e h1 h2 _; omega
  | succ f ih =>
    intro d e h1 h2 h3
    unfold rollFwd
    by_cases hb : c.isBus d = true
    · exact ⟨d, by rw [if_pos hb], by omega, h1⟩
    · rw [if_neg hb]
      have : e ≠ d := fun h => hb (h ▸ h3)
      obtain ⟨r, hr, h4, h5⟩ := ih (d + 1) e (by omega) (by omega) h3
      exact ⟨r, hr, by omega, h5⟩

/-- The loop returns the first eligible day on or after `d`; stated from `d`, not from the loop's entry
`nd`, so that the loop's own step (`rollFwd` from `nd + 1`, then the loop again) is an instance of the
statement. -/
theorem settleFwdLoop_some (fuel : Nat) : ∀ (f : Nat) (d nd r : Int), c.rollFwd fuel d = some nd →
    c.settleFwdLoop fuel f nd = some r →
    d ≤ r ∧ c.Elig true r ∧ ∀ x, d ≤ x → x < r → ¬ c.Elig true x := by
  intro f
  induction f with
  | zero => intro d nd r _ h; cases h
  | succ f ih =>
    intro d nd r hd h
    obtain ⟨a1, _, a3, a4⟩ := (c.rollFwd_eq_some fuel d nd).1 hd
    have hlt : ∀ x, d ≤ x → x < nd → ¬ c.Elig true x := fun x h1 h2 hE =>
      Bool.eq_false_iff.1 (a4 x h1 h2) hE.1
    unfold settleFwdLoop at h
    by_cases hs : c.isSettlement nd = true
    · rw [if_pos hs] at h
      cases h
      exact ⟨a1, ⟨a3, fun _ => hs⟩, hlt⟩
    · rw [if_neg hs] at h
      cases hr : c.rollFwd fuel (nd + 1) with
      | none => rw [hr] at h; cases h
      | some nd' =>
        rw [hr] at h
        obtain ⟨b1, b2, b3⟩ := ih (nd + 1) nd' r hr h
        refine ⟨by omega, b2, fun x hx1 hx2 hE => ?_⟩
        by_cases hxn : x < nd
        · exact hlt x hx1 hxn hE
        · by_cases hxn : x = nd
          · exact hs (hxn ▸ hE.2 rfl)
          · exact b3 x (by omega) hx2 hE

theorem rollFwdSettled_some (fuel : Nat) (d r : Int) (h : c.rollFwdSettled fuel d = some r) :
    d ≤ r ∧ c.Elig true r ∧ ∀ x, d ≤ x → x < r → ¬ c.Elig true x := by
  unfold rollFwdSettled at h
  cases hr : c.rollFwd fuel d with
  | none => rw [hr] at h; cases h
  | some nd =>
    rw [hr] at h
    exact c.settleFwdLoop_some fuel fuel d nd r hr h

/-- `fuel` bounds each inner `rollFwd`, `f` the rounds of the loop.  An eligible day `e` not before the
entry `nd` and within reach of both suffices: every round moves `nd` forward, and never past `e`. -/
theorem settleFwdLoop_exists (fuel : Nat) (e : Int) (he : c.Elig true e) :
    ∀ (f : Nat) (nd : Int), nd ≤ e → e < nd + f → e < nd + fuel →
      ∃ r, c.settleFwdLoop fuel f nd = some r := by
  intro f
  induction f with
  | zero => intro nd h1 h2 _; omega
  | succ f ih =>
    intro nd h1 h2 h3
    unfold settleFwdLoop
    by_cases hs : c.isSettlement nd = true
    · exact ⟨nd, by rw [if_pos hs]⟩
    · rw [if_neg hs]
      have hne : e ≠ nd := fun h => hs (h ▸ he.2 rfl)
      obtain ⟨nd', hr, hlo, hle⟩ := c.rollFwd_exists fuel (nd + 1) e (by omega) (by omega) he.1
      rw [hr]
      exact ih nd' hle (by omega) (by omega)

theorem rollFwdSettled_exists (fuel : Nat) (d e : Int) (h1 : d ≤ e) (h2 : e < d + fuel)
    (he : c.Elig true e) : ∃ r, c.rollFwdSettled fuel d = some r := by
  unfold rollFwdSettled
  obtain ⟨nd, hr, hlo, hle⟩ := c.rollFwd_exists fuel d e h1 h2 he.1
  rw [hr]
  exact c.settleFwdLoop_exists fuel e he fuel nd hle (by omega) (by omega)

/-- Day `d` of `c.neg` is day `-d` of `c`.  Every backward loop of `c` is the forward loop of `c.neg`
(`rollBwd_neg`, `rollBwdSettled_neg`, `roll_p_neg`), so a fact about a backward loop is the forward fact
read in `c.neg`. -/
def neg : DR := ⟨fun d => c.isWeekday (-d), fun d => c.isHoliday (-d), fun d => c.isSettlement (-d)⟩

protected theorem neg_neg : c.neg.neg = c := by simp [neg]

theorem neg_isBus (x : Int) : c.neg.isBus x = c.isBus (-x) := rfl

theorem neg_isSettlement (x : Int) : c.neg.isSettlement x = c.isSettlement (-x) := rfl

theorem map_neg_eq_some (o : Option Int) (r : Int) : o.map (- ·) = some r ↔ o = some (-r) := by
  cases o with
  | none => simp
  | some a =>
    simp only [Option.map_some, Option.some.injEq]
    omega

theorem rollBwd_neg (fuel : Nat) (d : Int) :
    c.rollBwd fuel d = (c.neg.rollFwd fuel (-d)).map (- ·) := by
  induction fuel generalizing d with
  | zero => rfl
  | succ f ih =>
    have h : -d + 1 = -(d - 1) := by omega
    unfold rollBwd rollFwd
    rw [neg_isBus, Int.neg_neg, h, ih]
    split
    · rw [Option.map_some, Int.neg_neg]
    · rfl

theorem settleBwdLoop_neg (fuel : Nat) (f : Nat) (d : Int) :
    c.settleBwdLoop fuel f d = (c.neg.settleFwdLoop fuel f (-d)).map (- ·) := by
  induction f generalizing d with
  | zero => rfl
  | succ f ih =>
    have h : -d + 1 = -(d - 1) := by omega
    unfold settleBwdLoop settleFwdLoop
    rw [neg_isSettlement, Int.neg_neg, h, rollBwd_neg]
    split
    · rw [Option.map_some, Int.neg_neg]
    · cases c.neg.rollFwd fuel (-(d - 1)) with
      | none => rfl
      | some nd => simp only [Option.map_some, ih, Int.neg_neg]

theorem rollBwdSettled_neg (fuel : Nat) (d : Int) :
    c.rollBwdSettled fuel d = (c.neg.rollFwdSettled fuel (-d)).map (- ·) := by
  unfold rollBwdSettled rollFwdSettled
  rw [rollBwd_neg]
  cases c.neg.rollFwd fuel (-d) with
  | none => rfl
  | some nd => simp only [Option.map_some, settleBwdLoop_neg, Int.neg_neg]

theorem rollBwd_eq_some (fuel : Nat) (d r : Int) : c.rollBwd fuel d = some r ↔
    r ≤ d ∧ d - fuel < r ∧ c.isBus r = true ∧ ∀ x, r < x → x ≤ d → c.isBus x = false := by
  rw [rollBwd_neg, map_neg_eq_some, rollFwd_eq_some, neg_isBus, Int.neg_neg]
  -- left: `-d ≤ -r ∧ -r < -d + fuel ∧ c.isBus r = true ∧ ∀ x, -d ≤ x → x < -r → c.neg.isBus x = false`;
  -- conjunct by conjunct, the last by `x ↦ -x`
  refine and_congr (by omega) (and_congr (by omega) (and_congr Iff.rfl
    ⟨fun h x h1 h2 => ?_, fun h x h1 h2 => ?_⟩))
  · simpa [neg_isBus] using h (-x) (by omega) (by omega)
  · exact h (-x) (by omega) (by omega)

theorem neg_Elig (s : Bool) (x : Int) : c.neg.Elig s (-x) ↔ c.Elig s x := by
  show c.isBus (- -x) = true ∧ (s = true → c.isSettlement (- -x) = true) ↔ _
  rw [Int.neg_neg]
  rfl

theorem roll_p_neg (fuel : Nat) (d : Int) (s : Bool) :
    c.roll fuel d .p s = (c.neg.roll fuel (-d) .f s).map (- ·) := by
  cases s
  · exact c.rollBwd_neg fuel d
  · exact c.rollBwdSettled_neg fuel d

theorem roll_f_exists (fuel : Nat) (d e : Int) (s : Bool) (h1 : d ≤ e) (h2 : e < d + fuel)
    (he : c.Elig s e) : ∃ r, c.roll fuel d .f s = some r := by
  cases s with
  | true => exact c.rollFwdSettled_exists fuel d e h1 h2 he
  | false => exact (c.rollFwd_exists fuel d e h1 h2 he.1).imp fun _ h => h.1

/-- The month test shared by the four 'modified' rules: the answer is that of the first search or that
of the opposite one. -/
theorem modified_eq_or (d : Int) (a b : Option Int) :
    (match a with
      | none => none
      | some n => if monthOf n != monthOf d then b else some n) = a ∨
    (match a with
      | none => none
      | some n => if monthOf n != monthOf d then b else some n) = b := by
  cases a with
  | none => exact .inl rfl
  | some n =>
    simp only
    split
    · exact .inr rfl
    · exact .inl rfl

theorem roll_eq_f_or_p (fuel : Nat) (d : Int) (s : Bool) {m : Modifier} (hm : m ≠ .act) :
    c.roll fuel d m s = c.roll fuel d .f s ∨ c.roll fuel d m s = c.roll fuel d .p s := by
  cases m with
  | act => exact absurd rfl hm
  | f => exact .inl rfl
  | p => exact .inr rfl
  | modF => cases s <;> exact modified_eq_or d _ _
  | modP => cases s <;> exact (modified_eq_or d _ _).symm

end DR

/-- a plain calendar's working weekday outside the span of its holidays is a business day -/
theorem Cal.isBus_of_working (cal : Cal) (lo hi e : Int) (hmask : cal.mask (weekday e) = false)
    (hb : ∀ x, cal.hol x = true → lo ≤ x ∧ x ≤ hi) (hout : e < lo ∨ hi < e) : cal.toDR.isBus e = true := by
  show (!cal.mask (weekday e) && !cal.hol e) = true
  rw [hmask]
  cases hh : cal.hol e with
  | false => rfl
  | true => have := hb e hh; omega

end Rateslib
