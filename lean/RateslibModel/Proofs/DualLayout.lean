/-
Name-indexed semantics of first-order dual numbers: look-up by name, what `vars_cmp` decides, the shape
invariant `WF`, the derivative by name `den`, the normal form by names `Dual.ofFun`, and what re-indexing
and alignment do name by name.
-/
import RateslibModel.Model.Dual
import RateslibModel.Proofs.Basic
import Mathlib.Tactic.Ring
import Mathlib.Data.List.Nodup
namespace Rateslib

section Lookup
variable {α : Type} [OfNat α 0]

theorem lookup_not_mem (vars : List String) (dual : List α) (n : String) (h : n ∉ vars) :
    lookupOrZero vars dual n = 0 := by
  unfold lookupOrZero
  rw [List.idxOf?_eq_none_iff.2 h]

theorem idxOf_nodup (vars : List String) (hn : vars.Nodup) (i : Nat) (hi : i < vars.length) :
    vars.idxOf? vars[i] = some i := by
  rw [List.idxOf?_eq_some_iff]
  refine ⟨hi, rfl, fun j hj hEq => ?_⟩
  have := (List.getElem_inj hn).mp hEq
  omega

/-- look-up by name commutes with an entrywise map that fixes 0: a missing name reads 0 on both sides -/
theorem L1_map (vars : List String) (l : List α) (g : α → α) (hg : g 0 = 0) (n : String) :
    lookupOrZero vars (l.map g) n = g (lookupOrZero vars l n) := by
  unfold lookupOrZero
  cases vars.idxOf? n with
  | none => exact hg.symm
  | some i => exact getD_map_hom g 0 0 hg l i

/-- looking a name up in a freshly re-indexed array returns the function value, 0 off the list -/
theorem L1_names (nv : List String) (f : String → α) (n : String) :
    lookupOrZero nv (nv.map f) n = if n ∈ nv then f n else 0 := by
  unfold lookupOrZero
  cases hx : nv.idxOf? n with
  | none => rw [if_neg (List.idxOf?_eq_none_iff.1 hx)]
  | some i =>
    obtain ⟨hi, h1, _⟩ := List.idxOf?_eq_some_iff.1 hx
    rw [if_pos (h1 ▸ List.getElem_mem hi)]
    simp [List.getD_eq_getElem?_getD, List.getElem?_eq_getElem hi, h1]

end Lookup

theorem Dual.contains_all_iff (a b : List String) :
    (b.all fun v => a.contains v) = true ↔ ∀ n ∈ b, n ∈ a := by
  simp only [List.all_eq_true, List.contains_iff_mem]

theorem varsCmp_spec (p : Bool) (a b : List String) :
    match varsCmp p a b with
    | .arcEq => p = true
    | .valEq => a = b
    | .superset => ∀ n ∈ b, n ∈ a
    | .subset => ∀ n ∈ a, n ∈ b
    | .difference => True := by
  unfold varsCmp
  split_ifs with h1 h2 h3 h4
  · exact h1
  · exact eq_of_beq h2
  · exact (Dual.contains_all_iff a b).1 (Bool.and_eq_true_iff.1 h3).2
  · exact (Dual.contains_all_iff b a).1 (Bool.and_eq_true_iff.1 h4).2
  · trivial

theorem mem_unionVars (a b : List String) (n : String) : n ∈ unionVars a b ↔ n ∈ a ∨ n ∈ b := by
  unfold unionVars
  simp only [List.mem_append, List.mem_filter, Bool.not_eq_true', List.contains_eq_mem,
    decide_eq_false_iff_not]
  constructor
  · rintro (h | ⟨h, _⟩) <;> simp [h]
  · rintro (h | h)
    · exact Or.inl h
    · by_cases ha : n ∈ a
      · exact Or.inl ha
      · exact Or.inr ⟨h, ha⟩

theorem nodup_unionVars (a b : List String) (ha : a.Nodup) (hb : b.Nodup) : (unionVars a b).Nodup := by
  unfold unionVars
  rw [List.nodup_append]
  refine ⟨ha, hb.filter _, ?_⟩
  intro x hx y hy
  simp only [List.mem_filter, Bool.not_eq_true', List.contains_eq_mem, decide_eq_false_iff_not] at hy
  rintro rfl
  exact hy.2 hx

namespace Dual
variable {α : Type}

/-- shape invariant of a first-order dual number -/
def WF (d : Dual α) : Prop := d.vars.Nodup ∧ d.dual.length = d.vars.length

variable [OfNat α 0]

/-- derivative with respect to the variable NAMED `n` (0 if the number does not carry it) -/
def den (d : Dual α) (n : String) : α := lookupOrZero d.vars d.dual n

theorem den_not_mem (d : Dual α) (n : String) (h : n ∉ d.vars) : den d n = 0 := lookup_not_mem _ _ _ h

/-! Normal form by names.  A shape-valid number IS the list of its derivatives by name along its variable list;
re-indexing and alignment produce numbers in this form by definition, and the array operations on two numbers
in this form over one list act entry by entry (the `*_map` lemmas), so the specification of an operation is
read off without looking at an index. -/

/-- the number with value `r` whose derivative by the name `n` of `vs` is `g n` -/
def ofFun (r : α) (vs : List String) (g : String → α) : Dual α := ⟨r, vs, vs.map g⟩

omit [OfNat α 0] in
theorem ofFun_wf (r : α) (vs : List String) (g : String → α) (hn : vs.Nodup) : (ofFun r vs g).WF :=
  ⟨hn, List.length_map _⟩

theorem den_ofFun (r : α) (vs : List String) (g : String → α) (n : String) :
    den (ofFun r vs g) n = if n ∈ vs then g n else 0 := L1_names vs g n

theorem dual_eq_map_den (d : Dual α) (h : d.WF) : d.dual = d.vars.map (den d) := by
  apply List.ext_getElem (by simp [h.2])
  intro i h1 h2
  have hi : i < d.vars.length := h.2 ▸ h1
  rw [List.getElem_map, den, lookupOrZero, idxOf_nodup d.vars h.1 i hi]
  simp only [List.getD_eq_getElem?_getD, List.getElem?_eq_getElem h1, Option.getD_some]

theorem eq_ofFun (d : Dual α) (h : d.WF) : d = ofFun d.real d.vars (den d) :=
  congrArg (Dual.mk d.real d.vars) (dual_eq_map_den d h)

/-- Re-indexing with the state `vars_cmp` computes when no storage is shared gives the normal form on the new
list: the relabelling fast path is only taken for equal lists, where the number is in that form already. -/
theorem toNewVars_cmp_eq (d : Dual α) (nv : List String) (hd : d.WF) :
    d.toNewVars nv (varsCmp false d.vars nv) = ofFun d.real nv (den d) := by
  have hc := varsCmp_spec false d.vars nv
  cases hs : varsCmp false d.vars nv <;> rw [hs] at hc
  · cases hc          -- arcEq: not reached, `hc` reads `false = true`
  · subst hc          -- valEq: equal lists, the number is kept, and it is in normal form already
    exact eq_ofFun d hd
  all_goals rfl       -- the three re-indexing states build the normal form by definition

theorem aligned_real (p : Bool) (a b : Dual α) :
    (aligned p a b).1.real = a.real ∧ (aligned p a b).2.real = b.real := by
  unfold aligned
  cases varsCmp p a.vars b.vars <;> exact ⟨rfl, rfl⟩

/-- After alignment both operands are in normal form over ONE duplicate-free list `cv` (as a set, the union of
the two lists), each with its own derivatives by name.  `hp` is the reachable-state invariant: shared storage
means equal lists. -/
theorem aligned_eq (p : Bool) (a b : Dual α) (ha : a.WF) (hb : b.WF) (hp : p = true → a.vars = b.vars) :
    ∃ cv : List String, cv.Nodup ∧ (∀ n, n ∈ cv ↔ n ∈ a.vars ∨ n ∈ b.vars) ∧
      aligned p a b = (ofFun a.real cv (den a), ofFun b.real cv (den b)) := by
  have same : a.vars = b.vars → ∃ cv : List String, cv.Nodup ∧ (∀ n, n ∈ cv ↔ n ∈ a.vars ∨ n ∈ b.vars) ∧
      (a, b) = (ofFun a.real cv (den a), ofFun b.real cv (den b)) := fun hv =>
    ⟨a.vars, ha.1, fun n => by simp [hv], by rw [← eq_ofFun a ha, hv, ← eq_ofFun b hb]⟩
  have hc := varsCmp_spec p a.vars b.vars
  unfold aligned
  cases hs : varsCmp p a.vars b.vars <;> rw [hs] at hc <;> simp only [toUnionVars]
  · -- arcEq
    exact same (hp hc)
  · -- valEq
    exact same hc
  · -- superset: b is re-indexed onto a's list
    refine ⟨a.vars, ha.1, fun n => ⟨Or.inl, Or.rec id (hc n)⟩, ?_⟩
    rw [← eq_ofFun a ha]
    rfl
  · -- subset
    refine ⟨b.vars, hb.1, fun n => ⟨Or.inr, Or.rec (hc n) id⟩, ?_⟩
    rw [← eq_ofFun b hb]
    rfl
  · -- difference: both onto the union
    exact ⟨_, nodup_unionVars _ _ ha.1 hb.1, mem_unionVars _ _, rfl⟩

/-- the pointer-equality flag cannot change the aligned pair when the invariant `ptrEq → equal lists` holds -/
theorem aligned_ptr_irrelevant (a b : Dual α) (h : a.vars = b.vars) :
    aligned true a b = aligned false a b := by
  unfold aligned varsCmp
  simp [h]

end Dual
end Rateslib
