/-
The three maps through which C12 reads a dual number (its value part, its (value, derivative by name)
pair, its directional 2-jet) commute with the five operations of the interpolation rules, hence by
`NumOpsHom.linear`, `.logLinear`, `.zeroRate` with the rules.  The jets carry the formulas of `evalJ`
and `evalJ2`, so that a rule evaluated on jets unfolds to `evalJ` (`evalJ2`) of the rule's formula.
-/
import RateslibModel.Proofs.InterpHom
import RateslibModel.Analysis.Refine
import RateslibModel.Analysis.Refine2
namespace Rateslib
open Expr

section Value
variable {α : Type} [Add α] [Sub α] [Mul α] [Div α] [Neg α] [OfNat α 0] [OfNat α 1] [OfNat α 2]
  [Transc α]

omit [Neg α] [OfNat α 2] in
/-- every operation acts on the value parts as the float operation itself (any scalar type) -/
theorem real_hom : NumOpsHom α (fun _ => True) (Dual.real (α := α)) where
  add a b _ _ :=
    ⟨trivial, congrArg₂ (· + ·) (Dual.aligned_real false a b).1 (Dual.aligned_real false a b).2⟩
  sub a b _ _ :=
    ⟨trivial, congrArg₂ (· - ·) (Dual.aligned_real false a b).1 (Dual.aligned_real false a b).2⟩
  mulF _ _ _ := ⟨trivial, rfl⟩
  log _ _ := ⟨trivial, rfl⟩
  exp _ _ := ⟨trivial, rfl⟩

omit [Neg α] in
theorem real_hom2 : NumOpsHom α (fun _ => True) (Dual2.real (α := α)) where
  add a b _ _ :=
    ⟨trivial, congrArg₂ (· + ·) (Dual2.aligned_real false a b).1 (Dual2.aligned_real false a b).2⟩
  sub a b _ _ :=
    ⟨trivial, congrArg₂ (· - ·) (Dual2.aligned_real false a b).1 (Dual2.aligned_real false a b).2⟩
  mulF _ _ _ := ⟨trivial, rfl⟩
  log _ _ := ⟨trivial, rfl⟩
  exp _ _ := ⟨trivial, rfl⟩

end Value

namespace JetOps

/-- scalar jets under the five operations: componentwise sum and difference, otherwise `evalJ`'s own
formulas, `mulF` being `mul` by a constant -/
noncomputable scoped instance numOpsJet : NumOps ℝ (ℝ × ℝ) where
  add a b := (a.1 + b.1, a.2 + b.2)
  sub a b := (a.1 - b.1, a.2 - b.2)
  mulF a c := evalJ (.mul (.leaf 0) (.const c)) fun _ => a
  log a := evalJ (.log (.leaf 0)) fun _ => a
  exp a := evalJ (.exp (.leaf 0)) fun _ => a

noncomputable scoped instance numOpsJ2 : NumOps ℝ J2 where
  add a b := ⟨a.v0 + b.v0, a.v1 + b.v1, a.v2 + b.v2⟩
  sub a b := ⟨a.v0 - b.v0, a.v1 - b.v1, a.v2 - b.v2⟩
  mulF a c := evalJ2 (.mul (.leaf 0) (.const c)) fun _ => a
  log a := evalJ2 (.log (.leaf 0)) fun _ => a
  exp a := evalJ2 (.exp (.leaf 0)) fun _ => a

end JetOps
open JetOps

theorem jetOf_hom (v : String) : NumOpsHom ℝ Dual.WF (jetOf · v) where
  add a b ha hb := add_jetOf a b ha hb v
  sub a b ha hb := sub_jetOf a b ha hb v
  mulF a c ha := by
    obtain ⟨wf, j⟩ := scaleL_jetOf a ha (a.real * c) c v
    refine ⟨wf, j.trans (Prod.ext rfl ?_)⟩
    simp only [NumOps.mulF, evalJ, jetOf]
    ring
  log a ha := scaleL_jetOf a ha _ _ v
  exp a ha := scaleL_jetOf a ha _ _ v

theorem dirJet_hom (α β : ℝ) (v w : String) : NumOpsHom ℝ Dual2.WF (dirJet α β v w) where
  add a b ha hb := add_dirJet a b ha hb α β v w
  sub a b ha hb := sub_dirJet a b ha hb α β v w
  mulF a c ha := by
    refine chain_refines (Dual2.scaleL_spec a ha (a.real * c) c) α β v w (J2.ext' rfl ?_ ?_)
    · simp only [NumOps.mulF, evalJ2, mulJ2]
      ring
    · simp only [NumOps.mulF, evalJ2, mulJ2]
      ring
  -- `log`, `exp` on jets ARE `evalJ2` of the one-operator formula, on numbers `evalD2` of it
  log a ha := evalD2_refines (.log (.leaf 0)) (fun _ => a) (fun _ => ha) α β v w
  exp a ha := evalD2_refines (.exp (.leaf 0)) (fun _ => a) (fun _ => ha) α β v w

end Rateslib
