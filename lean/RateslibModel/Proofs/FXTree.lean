/-
C09/C10 without hypotheses on potentials: whenever the triangulation returns a result for `n − 1` quotes
over `n` currencies, the quoted pairs form a tree (`Proofs/TreePotential.lean`), so a value potential `u`
(`quote = u a / u b`) and, for every quote, the cut it alone crosses, exist.
-/
import RateslibModel.Proofs.FXComplete
import RateslibModel.Proofs.FXSens
import RateslibModel.Proofs.TreePotential
import Mathlib.Algebra.GroupWithZero.Units.Basic
namespace Rateslib

section Conn
variable {τ : Type} [FxOps τ]

/-- a result is returned only if the quoted pairs connect all currencies -/
theorem connected_of_fill (n fuel : Nat) (pairs : List (Nat × Nat × τ)) (zero : τ) (a' : FxArr τ)
    (h : fill n fuel (initArr pairs zero) [] = some a') : Connected n (initArr pairs zero) := by
  intro S hS ⟨i0, hi0, hin⟩ j hj
  by_contra hout
  have := fill_none_of_disconnected n S i0 j hi0 hj hin hout fuel _ [] hS
  rw [this] at h
  cases h

/-- `connected_of_fill` for any list `l.map f` of edges that has the index pair of every quote, whatever
the values attached to them -/
theorem connectedE_of_fill {β G : Type} (n fuel : Nat) (pairs : List (Nat × Nat × τ)) (zero : τ)
    (a' : FxArr τ) (h : fill n fuel (initArr pairs zero) [] = some a') (l : List β)
    (f : β → Nat × Nat × G)
    (hl : ∀ p ∈ pairs, ∃ b ∈ l, (f b).1 = p.1 ∧ (f b).2.1 = p.2.1) : ConnectedE n (l.map f) := by
  intro S hS hne j hj
  refine connected_of_fill n fuel pairs zero a' h S (fun i k _ _ hik => ?_) hne j hj
  rcases (init_edges pairs zero i k).1 hik with rfl | ⟨p, hp, hik⟩
  · rfl
  · obtain ⟨b, hb, e1, e2⟩ := hl p hp
    have := hS (f b) (List.mem_map_of_mem hb)
    rw [e1, e2] at this
    rcases hik with ⟨rfl, rfl⟩ | ⟨rfl, rfl⟩
    exacts [this, this.symm]

end Conn

/-- `forest_potential` for a list of anything: `ix b` the index pair and `g b` the group element of `b`
(connectedness only looks at the index pairs) -/
theorem list_potential {β G : Type} [CommGroup G] (n : Nat) (l : List β) (ix : β → Nat × Nat)
    (hidx : ∀ b ∈ l, (ix b).1 < n ∧ (ix b).2 < n) (hlen : l.length + 1 = n)
    (hconn : ConnectedE n (l.map fun b => ((ix b).1, (ix b).2, b))) (g : β → G) :
    ∃ φ : Nat → G, ∀ b ∈ l, φ (ix b).1 / φ (ix b).2 = g b := by
  obtain ⟨φ, hφ⟩ := forest_potential n (l.map fun b => ((ix b).1, (ix b).2, g b))
    (List.forall_mem_map.2 hidx) (by rw [List.length_map]; exact hlen)
    fun S hS => hconn S (List.forall_mem_map.2 (List.forall_mem_map.1 hS))
  exact ⟨φ, fun b hb => hφ _ (List.mem_map_of_mem hb)⟩

section Field
variable {K : Type} [Field K]

/-- Existence of the potential: `n − 1` edges `b` (index pair `ix b`, non-zero value `val b`) that connect
`n` vertices are all of the form `u a / u b` for one non-vanishing `u`. -/
theorem field_potential {β : Type} (n : Nat) (l : List β) (ix : β → Nat × Nat) (val : β → K)
    (hidx : ∀ b ∈ l, (ix b).1 < n ∧ (ix b).2 < n) (hlen : l.length + 1 = n)
    (hnz : ∀ b ∈ l, val b ≠ 0)
    (hconn : ConnectedE n (l.map fun b => ((ix b).1, (ix b).2, b))) :
    ∃ u : Nat → K, (∀ i, u i ≠ 0) ∧ ∀ b ∈ l, val b = u (ix b).1 / u (ix b).2 := by
  classical
  obtain ⟨φ, hφ⟩ := list_potential n l ix hidx hlen hconn
    fun b => if hx : val b = 0 then 1 else Units.mk0 (val b) hx
  refine ⟨fun i => (φ i : K), fun i => (φ i).ne_zero, fun b hb => ?_⟩
  have := congrArg (fun z : Kˣ => (z : K)) (hφ b hb)
  simpa only [dif_neg (hnz b hb), Units.val_div_eq_div_val, Units.val_mk0] using this.symm

theorem potential_of_fill (n fuel : Nat) (pairs : List (Nat × Nat × K)) (a' : FxArr K)
    (hidx : ∀ p ∈ pairs, p.1 < n ∧ p.2.1 < n) (hlen : pairs.length + 1 = n)
    (hnz : ∀ p ∈ pairs, p.2.2 ≠ 0)
    (h : fill n fuel (initArr pairs 0) [] = some a') :
    ∃ u : Nat → K, (∀ i, u i ≠ 0) ∧ ∀ p ∈ pairs, p.2.2 = u p.1 / u p.2.1 :=
  field_potential n pairs (fun p => (p.1, p.2.1)) (fun p => p.2.2) hidx hlen hnz
    (connectedE_of_fill n fuel pairs 0 a' h pairs _ fun p hp => ⟨p, hp, rfl, rfl⟩)

end Field

section Cut
open Rateslib.Dual

/-- Existence of the cut: among `n − 1` edges that connect `n` vertices take an edge `b0` and a set `same`
of edges that contains it; there is a 0/1 function `σ` of the vertices with `σ a0 = 1`, `σ b0 = 0` that no
edge outside `same` crosses: the vertices where a potential of the assignment "−1 on `same`, 1 elsewhere"
takes the value it has at `a0`. -/
theorem cut_of_connected {β : Type} (n : Nat) (l : List β) (ix : β → Nat × Nat)
    (hidx : ∀ b ∈ l, (ix b).1 < n ∧ (ix b).2 < n) (hlen : l.length + 1 = n)
    (hconn : ConnectedE n (l.map fun b => ((ix b).1, (ix b).2, b)))
    (b0 : β) (hb0 : b0 ∈ l) (same : β → Prop) (h0 : same b0) :
    ∃ σ : Nat → ℝ, (∀ i, i < n → σ i = 0 ∨ σ i = 1) ∧ σ (ix b0).1 = 1 ∧ σ (ix b0).2 = 0 ∧
      ∀ b ∈ l, ¬ same b → σ (ix b).1 = σ (ix b).2 := by
  classical
  obtain ⟨φ, hd⟩ := list_potential n l ix hidx hlen hconn fun b => if same b then (-1 : ℤˣ) else 1
  refine ⟨fun i => if φ i = φ (ix b0).1 then 1 else 0, fun i _ => (ite_eq_or_eq _ _ _).symm, if_pos rfl,
    if_neg fun h => ?_, fun b hb hs => ?_⟩
  · have := hd b0 hb0
    rw [if_pos h0, h, div_self'] at this
    exact absurd this (by decide)
  · have := hd b hb
    rw [if_neg hs, div_eq_one] at this
    simp only [this]

/-- the quoted pairs connect the currencies whenever `create_fx_array` returns an array (any order) -/
theorem connectedE_of_create (currencies : List String) (quotes : List (FXQuote ℝ)) (ad : ADOrder)
    (arr : FxArray ℝ) (h : createFxArray currencies quotes ad = some arr) :
    ConnectedE currencies.length
      (quotes.map fun q => ((pairIdx currencies q).1, (pairIdx currencies q).2, q)) := by
  have hl : ∀ {τ : Type} (conv : Number ℝ → τ), ∀ p ∈ liftQuotes conv currencies quotes ad,
      ∃ q ∈ quotes, (pairIdx currencies q).1 = p.1 ∧ (pairIdx currencies q).2 = p.2.1 := by
    intro τ conv p hp
    obtain ⟨q, hq, rfl⟩ := List.mem_map.1 hp
    exact ⟨q, hq, rfl, rfl⟩
  cases ad with
  | zero =>
    rw [createFxArray_zero, Option.map_eq_some_iff] at h
    obtain ⟨A, hf, _⟩ := h
    exact connectedE_of_fill _ _ _ _ A hf quotes _ (hl _)
  | one =>
    rw [createFxArray_one, Option.map_eq_some_iff] at h
    obtain ⟨A, hf, _⟩ := h
    exact connectedE_of_fill _ _ _ _ A hf quotes _ (hl _)
  | two =>
    rw [createFxArray_two, Option.map_eq_some_iff] at h
    obtain ⟨A, hf, _⟩ := h
    exact connectedE_of_fill _ _ _ _ A hf quotes _ (hl _)

/-- the value potential of a connected market of `n − 1` non-zero plain-number quotes -/
theorem potential_of_connected (currencies : List String) (quotes : List (FXQuote ℝ))
    (hcount : quotes.length + 1 = currencies.length)
    (hidx : ∀ q ∈ quotes, (pairIdx currencies q).1 < currencies.length ∧
      (pairIdx currencies q).2 < currencies.length)
    (hplain : ∀ q ∈ quotes, ∃ f, q.rate = .f64 f ∧ f ≠ 0)
    (hconn : ConnectedE currencies.length
      (quotes.map fun q => ((pairIdx currencies q).1, (pairIdx currencies q).2, q))) :
    ∃ u : Nat → ℝ, (∀ i, u i ≠ 0) ∧ ∀ q ∈ quotes, ∃ f, q.rate = .f64 f ∧
      f = u (pairIdx currencies q).1 / u (pairIdx currencies q).2 := by
  obtain ⟨u, hu, hval⟩ := field_potential currencies.length quotes (pairIdx currencies)
    (fun q => match q.rate with | .f64 f => f | _ => 1) hidx hcount
    (fun q hq => by obtain ⟨f, hf, hfz⟩ := hplain q hq; simpa only [hf] using hfz) hconn
  refine ⟨u, hu, fun q hq => ?_⟩
  obtain ⟨f, hf, _⟩ := hplain q hq
  exact ⟨f, hf, by simpa only [hf] using hval q hq⟩

/-- the 0/1 cut of a quote `q0` in a connected market of `n − 1` quotes -/
theorem cut_of_quote (currencies : List String) (quotes : List (FXQuote ℝ))
    (hcount : quotes.length + 1 = currencies.length)
    (hidx : ∀ q ∈ quotes, (pairIdx currencies q).1 < currencies.length ∧
      (pairIdx currencies q).2 < currencies.length)
    (hconn : ConnectedE currencies.length
      (quotes.map fun q => ((pairIdx currencies q).1, (pairIdx currencies q).2, q)))
    (q0 : FXQuote ℝ) (hq0 : q0 ∈ quotes) :
    ∃ σ : Nat → ℝ, (∀ i, i < currencies.length → σ i = 0 ∨ σ i = 1) ∧
      σ (pairIdx currencies q0).1 = 1 ∧ σ (pairIdx currencies q0).2 = 0 ∧
      ∀ q ∈ quotes, fxVarName q ≠ fxVarName q0 →
        σ (pairIdx currencies q).1 = σ (pairIdx currencies q).2 :=
  cut_of_connected _ quotes (pairIdx currencies) hidx hcount hconn q0 hq0
    (fun q => fxVarName q = fxVarName q0) rfl

/-- the float that `potential_of_connected` speaks of is the one read off the quote's rate -/
theorem eq_of_plain {q : FXQuote ℝ} {f0 x : ℝ} (hf0 : q.rate = .f64 f0)
    (h : ∃ f, q.rate = .f64 f ∧ f = x) : f0 = x := by
  obtain ⟨f, hf, rfl⟩ := h
  rw [hf0] at hf
  injection hf

end Cut
end Rateslib
