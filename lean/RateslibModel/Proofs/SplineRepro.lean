/-
Polynomial reproduction: polynomials of degree below the order as splines with all their derivatives, and
reproduction by `csolve` (by completeness of the solver, Proofs/Gauss.lean).
-/
import RateslibModel.Proofs.BSplineDeriv
import RateslibModel.Proofs.SplineDeriv
import RateslibModel.Proofs.Marsden
import RateslibModel.Proofs.RealSolver
import RateslibModel.Proofs.Basic
import RateslibModel.Proofs.FSolve
import Mathlib.Analysis.Calculus.Deriv.Polynomial
import Mathlib.Analysis.Calculus.TangentCone.Real
namespace Rateslib
open Set Topology Polynomial

/-- the spline function with coefficients `a`, derivative order `m` -/
noncomputable def splineFn (t : List ℝ) (K : Nat) (a : Nat → ℝ) (m : Nat) (x : ℝ) : ℝ :=
  ∑ i ∈ Finset.range (t.length - K), bspldnev t x m i K none * a i

theorem splineFn_right (t : List ℝ) (hs : SortedKnots t) (K : Nat) (a : Nat → ℝ) (m : Nat) (x : ℝ)
    (hx : x < knot t (t.length - 1)) :
    HasDerivWithinAt (splineFn t K a m) (splineFn t K a (m + 1) x) (Ici x) x :=
  HasDerivWithinAt.fun_sum fun i hi =>
    (bspldnev_right_deriv t hs x hx m K i none (by rw [Finset.mem_range] at hi; omega)).mul_const _

theorem splineFn_left (t : List ℝ) (K : Nat) (H : RightEnd t K) (a : Nat → ℝ) (m : Nat) :
    HasDerivWithinAt (splineFn t K a m) (splineFn t K a (m + 1) (knot t (t.length - 1)))
      (Iic (knot t (t.length - 1))) (knot t (t.length - 1)) :=
  HasDerivWithinAt.fun_sum fun i hi =>
    (bspldnev_left_deriv_end t K H m i (by rw [Finset.mem_range] at hi; omega)).mul_const _

/-- a one-sided derivative of `f` is the derivative of a differentiable `g` agreeing with `f` on that side -/
theorem deriv_eq_of_agree {f g : ℝ → ℝ} {f' g' : ℝ} {S : Set ℝ} {x : ℝ} (hS : UniqueDiffWithinAt ℝ S x)
    (hf : HasDerivWithinAt f f' S x) (hg : HasDerivAt g g' x) (hev : ∀ᶠ y in 𝓝[S] x, g y = f y)
    (hx : g x = f x) : f' = g' :=
  hS.eq_deriv _ (hf.congr_of_eventuallyEq hev hx) hg.hasDerivWithinAt

/-- A POLYNOMIAL OF DEGREE BELOW THE ORDER IS A SPLINE WITH ALL ITS DERIVATIVES: with Marsden's
coefficients, the model's derivative evaluation of every order `m`, anywhere in the domain — knots and both
end points included — is the `m`-th derivative of the polynomial. -/
theorem poly_spline_derivs (t : List ℝ) (K : Nat) (H : RightEnd t K) (he : EndKnots t K)
    (p : ℝ[X]) (hp : p.natDegree < K) :
    ∀ (m : Nat) (x : ℝ), knot t 0 ≤ x → x ≤ knot t (t.length - 1) →
      splineFn t K (marsdenCoef t K p) m x = (derivative^[m] p).eval x := by
  have hlen := H.len
  intro m
  induction m with
  | zero =>
    intro x hx0 hx1
    unfold splineFn
    have := poly_in_span t H.sorted K H.hK he p hp x hx0 hx1
    rw [Function.iterate_zero, id, ← this]
    apply Finset.sum_congr rfl
    intro i _
    show bsplev t x K i K * _ = _
    ring
  | succ m ih =>
    intro x hx0 hx1
    rw [Function.iterate_succ_apply']
    have hpoly := (derivative^[m] p).hasDerivAt x
    rcases lt_or_eq_of_le hx1 with hlt | heq
    · -- right derivative
      refine deriv_eq_of_agree (uniqueDiffWithinAt_Ici x) (splineFn_right t H.sorted K _ m x hlt) hpoly ?_
        (ih x hx0 hx1).symm
      filter_upwards [nhdsWithin_le_nhds (Iio_mem_nhds hlt), self_mem_nhdsWithin] with y hy hxy
      exact (ih y (le_trans hx0 hxy) (le_of_lt hy)).symm
    · -- left derivative at the right end point
      subst heq
      refine deriv_eq_of_agree (uniqueDiffWithinAt_Iic _) (splineFn_left t K H _ m) hpoly ?_
        (ih _ hx0 hx1).symm
      filter_upwards [Ioc_mem_nhdsLE H.interior] with y hy
      have h0 : knot t 0 ≤ knot t (t.length - K - 1) := H.sorted _ _ (Nat.zero_le _) (by omega)
      exact (ih y (le_trans h0 (le_of_lt hy.1)) hy.2).symm

/-- which derivative the collocation row `j` of `csolve` prescribes -/
def rowOrder (ntau leftN rightN j : Nat) : Nat :=
  if j = ntau - 1 then rightN else if j = 0 then leftN else 0

theorem bsplMatrix_row {α : Type} [Add α] [Sub α] [Mul α] [Div α] [Neg α] [OfNat α 0] [OfNat α 1] [OfNat α 2]
    [Transc α] (k : Nat) (t : List α) (n : Nat) (tau : List α) (leftN rightN j i : Nat) :
    bsplMatrix k t n tau leftN rightN j i
      = bspldnev t (tau.getD j 0) (rowOrder tau.length leftN rightN j) i k none := by
  unfold bsplMatrix rowOrder
  split
  · rfl
  · split
    · rename_i h0; subst h0; rfl
    · rfl

/-- a coefficient list that agrees with Marsden's coefficients is the polynomial, with all derivatives -/
theorem ppdnev_of_marsdenCoef (t : List ℝ) (K : Nat) (H : RightEnd t K) (he : EndKnots t K)
    (p : ℝ[X]) (hp : p.natDegree < K) (c : List ℝ)
    (hc : ∀ i, i < t.length - K → c.getD i 0 = marsdenCoef t K p i)
    (x : ℝ) (hx0 : knot t 0 ≤ x) (hx1 : x ≤ knot t (t.length - 1)) (m : Nat) :
    (⟨K, t, some c⟩ : PPSpline ℝ ℝ).ppdnev x m = some ((derivative^[m] p).eval x) := by
  rw [ppdnev_real _ _ rfl, ← poly_spline_derivs t K H he p hp m x hx0 hx1]
  exact congrArg some (Finset.sum_congr rfl fun i hi => by rw [hc i (Finset.mem_range.1 hi)])

/-- REPRODUCTION, whatever the system: if Marsden's coefficients solve it and its elimination meets no zero
pivot, they are what the solver returns (completeness), so the stored spline is the polynomial. -/
theorem reproduces_of_sol (t : List ℝ) (K : Nat) (H : RightEnd t K) (he : EndKnots t K)
    (p : ℝ[X]) (hp : p.natDegree < K) (sys : FSys ℝ ℝ)
    (hpiv : PivotsGood geR (t.length - K) (List.range (t.length - K)) (toSys sys))
    (hsol : Sol (t.length - K) (toSys sys) (marsdenCoef t K p))
    (x : ℝ) (hx0 : knot t 0 ≤ x) (hx1 : x ≤ knot t (t.length - 1)) (m : Nat) :
    (⟨K, t, some ((List.range (t.length - K)).map (fdsolve21 (α := ℝ) (σ := ℝ) (t.length - K) sys))⟩ :
      PPSpline ℝ ℝ).ppdnev x m = some ((derivative^[m] p).eval x) := by
  refine ppdnev_of_marsdenCoef t K H he p hp _ (fun i hi => ?_) x hx0 hx1 m
  have e : fdsolve21 (α := ℝ) (σ := ℝ) (t.length - K) sys = @dsolve21 ℝ (ringLinOps geR) _ (toSys sys) :=
    fdsolve21_eq geR _ sys
  rw [getD_map_range, if_pos hi, e]
  exact (dsolve21_unique geR _ (toSys sys) hpiv _ hsol i hi).symm

/-- Marsden's coefficients solve the collocation system of polynomial data -/
theorem marsden_solves (t : List ℝ) (K : Nat) (H : RightEnd t K) (he : EndKnots t K)
    (p : ℝ[X]) (hp : p.natDegree < K) (tau : List ℝ) (l r : Nat)
    (htau : ∀ j, j < tau.length → knot t 0 ≤ tau.getD j 0 ∧ tau.getD j 0 ≤ knot t (t.length - 1))
    (y : List ℝ)
    (hy : ∀ j, j < tau.length → y.getD j 0 = (derivative^[rowOrder tau.length l r j] p).eval (tau.getD j 0))
    (j : Nat) (hjt : j < tau.length) :
    ∑ i ∈ Finset.range (t.length - K), bsplMatrix K t (t.length - K) tau l r j i * marsdenCoef t K p i
      = y.getD j 0 := by
  simp only [bsplMatrix_row]
  have : splineFn t K _ _ _ = _ := poly_spline_derivs t K H he p hp (rowOrder tau.length l r j) (tau.getD j 0)
    (htau j hjt).1 (htau j hjt).2
  exact this.trans (hy j hjt).symm

end Rateslib
