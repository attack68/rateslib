/-
Over an ordered field, with partial pivoting by magnitude, a system with exactly one solution never meets a
zero pivot (`pivots_good_of_unique`): if the current column were zero from the diagonal down, the partially
eliminated matrix would have a kernel vector (`kernel_of_zero_col`), contradicting uniqueness.  At ℝ that
comparison is the one of the float code path (`geR_eq_absGeK`).
-/
import RateslibModel.Proofs.Gauss
import RateslibModel.Proofs.RealSolver
namespace Rateslib

section Kernel
variable {K : Type} [Field K]

theorem good_of_ne {p : K} (hp : p ≠ 0) : Good p := fun x => div_mul_cancel₀ x hp

/-- If, at column `j` of a partially eliminated matrix (zeros below the diagonal in the columns before
`j`, non-zero diagonal there), the whole column `j` from the diagonal down is zero, the matrix has a
kernel vector with a 1 in position `j`. -/
theorem kernel_of_zero_col (n j : Nat) (a : Nat → Nat → K) (hj : j < n)
    (hz : ∀ r c, c < j → c < r → r < n → a r c = 0) (hd : ∀ i, i < j → a i i ≠ 0)
    (hcol : ∀ r, j ≤ r → r < n → a r j = 0) :
    ∃ z : Nat → K, z j = 1 ∧ ∀ r, r < n → rowDot n a z r = 0 := by
  -- back substitution on the leading j × j block with right-hand side −(column j)
  let u : Sys K := ⟨a, fun r => -a r j⟩
  have hu : Elim j j u :=
    ⟨fun r c hc hcr hr => hz r c hc hcr (by omega), fun i hi => good_of_ne (hd i hi)⟩
  let y := (List.range' 0 j).foldr (backStep j u) (fun _ => 0)
  have hy : ∀ r, r < j → rowDot j a y r = -a r j := fun r hr =>
    back_spec j u hu j 0 (by omega) r (Nat.zero_le r) hr
  refine ⟨fun c => if c < j then y c else if c = j then 1 else 0, by simp, fun r hr => ?_⟩
  have h1 : rowDot j a (fun c => if c < j then y c else if c = j then 1 else 0) r = rowDot j a y r :=
    Finset.sum_congr rfl fun c hc => by simp only [if_pos (Finset.mem_range.1 hc)]
  have h3 : ∑ c ∈ Finset.Ico (j + 1) n, a r c * (if c < j then y c else if c = j then 1 else 0) = 0 :=
    Finset.sum_eq_zero fun c hc => by
      rw [Finset.mem_Ico] at hc
      rw [if_neg (by omega), if_neg (by omega), mul_zero]
  rw [rowDot_split n _ _ r hj, h1, h3]
  simp only [lt_irrefl, if_false, if_true]
  by_cases hrj : r < j
  · rw [hy r hrj]
    ring
  · rw [rowDot_eq_zero j a y r fun c hc => hz r c hc (by omega) hr, hcol r (by omega) hr]
    ring

end Kernel

section Ordered
variable {K : Type} [Field K] [LinearOrder K] [IsStrictOrderedRing K]

/-- the pivot comparison of the code: `|x| ≥ |y|` -/
def absGeK (x y : K) : Bool := decide (|y| ≤ |x|)

omit [IsStrictOrderedRing K] in
/-- partial pivoting picks an entry of maximal magnitude in the column, from the diagonal down -/
theorem pivotIdx_max (n j : Nat) (a : Nat → Nat → K) :
    ∀ r, j ≤ r → r < n → |a r j| ≤ |a (@pivotIdx K (ringLinOps absGeK) n j a) j| := by
  unfold pivotIdx
  have key : ∀ (l : List Nat) (best : Nat),
      let b' := l.foldl (fun best r => if absGeK (a r j) (a best j) then r else best) best
      |a best j| ≤ |a b' j| ∧ ∀ r ∈ l, |a r j| ≤ |a b' j| := by
    intro l
    induction l with
    | nil => exact fun best => ⟨le_refl _, fun r hr => absurd hr List.not_mem_nil⟩
    | cons x xs ih =>
      intro best
      simp only [List.foldl_cons]
      -- one comparison keeps the larger of the two
      have hstep : |a best j| ≤ |a (if absGeK (a x j) (a best j) then x else best) j| ∧
          |a x j| ≤ |a (if absGeK (a x j) (a best j) then x else best) j| := by
        by_cases hx : |a best j| ≤ |a x j|
        · rw [absGeK, decide_eq_true hx, if_pos rfl]
          exact ⟨hx, le_refl _⟩
        · rw [absGeK, decide_eq_false hx, if_neg Bool.false_ne_true]
          exact ⟨le_refl _, le_of_not_ge hx⟩
      obtain ⟨h1, h2⟩ := ih (if absGeK (a x j) (a best j) then x else best)
      refine ⟨le_trans hstep.1 h1, fun r hr => ?_⟩
      rcases List.mem_cons.mp hr with rfl | hr
      · exact le_trans hstep.2 h1
      · exact h2 r hr
  intro r hjr hrn
  refine (key _ j).2 r ?_
  rw [List.mem_range'_1]
  omega

omit [LinearOrder K] [IsStrictOrderedRing K] in
theorem rowDot_add (n : Nat) (a : Nat → Nat → K) (x z : Nat → K) (r : Nat) :
    rowDot n a (fun c => x c + z c) r = rowDot n a x r + rowDot n a z r := by
  unfold rowDot
  rw [← Finset.sum_add_distrib]
  exact Finset.sum_congr rfl fun c _ => mul_add _ _ _

/-- A system with exactly one solution never meets a zero pivot: partial pivoting always finds a
non-zero entry in the current column. -/
theorem pivots_good_of_unique (n : Nat) : ∀ (k j : Nat) (s : Sys K), j + k = n → ZerosBelow n j s →
    (∀ i, i < j → s.a i i ≠ 0) → (∃ x0, Sol n s x0) →
    (∀ x y, Sol n s x → Sol n s y → ∀ c, c < n → x c = y c) →
    PivotsGood absGeK n (List.range' j k) s := by
  intro k
  induction k with
  | zero => intro j s _ _ _ _ _; exact trivial
  | succ k ih =>
    intro j s hjk hz hd hex huniq
    have hj : j < n := by omega
    rw [List.range'_succ]
    have hp : (swapped absGeK n s j).a j j ≠ 0 := by
      intro h0
      rw [swapped_row absGeK n s j j, Equiv.swap_apply_left] at h0
      have hcol : ∀ r, j ≤ r → r < n → s.a r j = 0 := by
        intro r h1 h2
        have := pivotIdx_max n j s.a r h1 h2
        rw [h0, abs_zero] at this
        exact abs_nonpos_iff.mp this
      -- a kernel vector gives a second solution
      obtain ⟨z, hz1, hz2⟩ := kernel_of_zero_col n j s.a hj hz hd hcol
      obtain ⟨x0, hx0⟩ := hex
      have hx1 : Sol n s (fun c => x0 c + z c) := fun r hr => by
        rw [rowDot_add, hx0 r hr, hz2 r hr, add_zero]
      have := huniq _ _ hx0 hx1 j hj
      rw [hz1, left_eq_add] at this
      exact one_ne_zero this
    have hg : Good ((swapped absGeK n s j).a j j) := good_of_ne hp
    obtain ⟨e1, e2⟩ := elimStep_spec absGeK n s j hj ⟨hz, fun i hi => good_of_ne (hd i hi)⟩ hg
    exact ⟨hg, ih (j + 1) _ (by omega) e1.zeros (fun i hi => ne_zero_of_good (e1.diag i hi))
      (hex.imp fun x0 hx0 => (e2 x0).2 hx0) fun x y hx hy => huniq x y ((e2 x).1 hx) ((e2 y).1 hy)⟩

/-- `pivots_good_of_unique` for the whole elimination: at column 0 nothing is asked of the earlier columns -/
theorem pivotsGood_of_exists_unique (n : Nat) (s : Sys K) (hex : ∃ x0, Sol n s x0)
    (huniq : ∀ x y, Sol n s x → Sol n s y → ∀ c, c < n → x c = y c) :
    PivotsGood absGeK n (List.range n) s := by
  rw [List.range_eq_range']
  exact pivots_good_of_unique n n 0 s (by omega) (fun r c hc _ _ => by omega) (fun i hi => by omega)
    hex huniq

end Ordered

/-- the magnitude comparison of `pivots_good_of_unique` is the comparison of the float code path -/
theorem geR_eq_absGeK : geR = absGeK := by
  funext x y
  have habs : ∀ t : ℝ, absS t = |t| := by
    intro t
    unfold absS
    by_cases h : t < 0
    · have : Transc.ltb t 0 = true := decide_eq_true h
      rw [if_pos this, abs_of_neg h]
    · have : Transc.ltb t 0 = false := decide_eq_false h
      rw [this]; simp only [Bool.false_eq_true, if_false]
      exact (abs_of_nonneg (not_lt.mp h)).symm
  show (!Transc.ltb (absS x) (absS y)) = absGeK x y
  rw [habs, habs]
  unfold absGeK
  show (!decide (|x| < |y|)) = decide (|y| ≤ |x|)
  rw [← decide_not]
  exact decide_eq_decide.2 not_lt

end Rateslib
