/-
Marsden's identity for the model's B-spline basis, on every knot span and on the whole domain (right end
point included), and its consequence: every polynomial of degree below the order is a spline, with explicit
coefficients.
-/
import RateslibModel.Proofs.BSplinePoU
import Mathlib.Algebra.Polynomial.Eval.Degree
import Mathlib.Algebra.Polynomial.Roots
import Mathlib.Algebra.Polynomial.Coeff
namespace Rateslib
open Finset

/-- Marsden's dual polynomials: `ψ_{i}(y) = ∏_{r<n} (y − t_{i+1+r})` (for order `k`, `n = k − 1`) -/
noncomputable def psiN (t : List ℝ) (y : ℝ) (n i : Nat) : ℝ := ∏ r ∈ range n, (y - knot t (i + 1 + r))

theorem psiN_succ_right (t : List ℝ) (y : ℝ) (n i : Nat) :
    psiN t y (n + 1) i = psiN t y n i * (y - knot t (i + (n + 1))) := by
  unfold psiN; rw [prod_range_succ, Nat.add_right_comm, Nat.add_assoc]

theorem psiN_succ_left (t : List ℝ) (y : ℝ) (n i : Nat) :
    psiN t y (n + 1) i = (y - knot t (i + 1)) * psiN t y n (i + 1) := by
  unfold psiN; rw [prod_range_succ', mul_comm]; simp only [Nat.add_right_comm (i + 1) 1]; rfl

/-- the one idea of Marsden's identity: ψ loses the factor `y − x` per order, because its two one-sided
recursions make both coefficients that meet `B_{i+1}` multiples of `ψ_n(i+1)` -/
theorem reduces_psiN (t : List ℝ) (x y : ℝ) : Reduces t x (y - x) (psiN t y) := by
  refine ⟨fun _ => prod_range_zero _, fun n i => ?_⟩
  -- ψ_{n+1}(i+1) = ψ_n(i+1)·(y − t_{i+n+2}),  ψ_{n+1}(i) = (y − t_{i+1})·ψ_n(i+1)
  rw [psiN_succ_right t y n (i + 1)]
  rw [psiN_succ_left t y n i]
  rw [Nat.add_assoc i 1, Nat.add_comm 1]
  -- (x − t_{i+1})(y − t_{i+n+2}) + (t_{i+n+2} − x)(y − t_{i+1}) = (y − x)(t_{i+n+2} − t_{i+1})
  ring

/-- MARSDEN'S IDENTITY on a non-empty knot span `[t_j, t_{j+1})`: for every `y`,
`Σ ψ_{i,k}(y) · B_{i,k}(x) = (y − x)^{k−1}` over the `k` functions alive on the span (every knot
multiplicity). -/
theorem marsden_span (t : List ℝ) (hs : SortedKnots t) (x y : ℝ) (j : Nat)
    (hj1 : knot t j ≤ x) (hj2 : x < knot t (j + 1)) :
    ∀ k, 1 ≤ k → k ≤ j + 1 → j + k < t.length →
      ∑ r ∈ range k, psiN t y (k - 1) (j + 1 - k + r) * pureB t x k (j + 1 - k + r) = (y - x) ^ (k - 1) := by
  intro k hk hkj hlen
  obtain ⟨n, rfl⟩ : ∃ n, k = n + 1 := ⟨k - 1, by omega⟩
  obtain ⟨p, rfl⟩ : ∃ p, j = p + n := ⟨j - n, by omega⟩
  simp only [Nat.add_sub_cancel, show p + n + 1 - (n + 1) = p by omega, pureB_eq_genB]
  exact genB_window_sum t hs x (y - x) _ (reduces_psiN t x y) n p (by omega) hj1 hj2

/-- MARSDEN'S IDENTITY ON THE WHOLE DOMAIN, for the model's `bsplev` — right end point included. -/
theorem marsden_domain (t : List ℝ) (hs : SortedKnots t) (K : Nat) (hK : 1 ≤ K)
    (he : EndKnots t K) (x y : ℝ) (hx0 : knot t 0 ≤ x) (hx1 : x ≤ knot t (t.length - 1)) :
    ∑ i ∈ range (t.length - K), psiN t y (K - 1) i * bsplev t x K i K = (y - x) ^ (K - 1) := by
  obtain ⟨n, rfl⟩ : ∃ n, K = n + 1 := ⟨K - 1, by omega⟩
  rw [Nat.add_sub_cancel]
  rcases lt_or_eq_of_le hx1 with hlt | rfl
  · exact bsplev_sum_domain t hs n he x hx0 hlt (y - x) _ (reduces_psiN t x y)
  · -- all the knots of the last function's dual polynomial are the last knot
    obtain ⟨hlen, -, eL⟩ := he
    rw [bsplev_sum_right_end t hs (n + 1) hK hlen, psiN,
      prod_congr rfl (g := fun _ => y - knot t (t.length - 1)), prod_const, card_range]
    intro r hr
    rw [mem_range] at hr
    have h1 : knot t (t.length - (n + 1)) ≤ knot t (t.length - (n + 1) - 1 + 1 + r) :=
      hs _ _ (by omega) (by omega)
    have h2 : knot t (t.length - (n + 1) - 1 + 1 + r) ≤ knot t (t.length - 1) :=
      hs _ _ (by omega) (by omega)
    rw [eL] at h1
    rw [le_antisymm h2 h1]

open Polynomial

/-- the dual polynomials as polynomials -/
noncomputable def psiPoly (t : List ℝ) (n i : Nat) : ℝ[X] := ∏ r ∈ range n, (X - C (knot t (i + 1 + r)))

theorem psiPoly_eval (t : List ℝ) (n i : Nat) (y : ℝ) : (psiPoly t n i).eval y = psiN t y n i := by
  unfold psiPoly psiN
  rw [eval_prod]
  apply prod_congr rfl
  intro r _
  simp

/-- Marsden's identity as an identity of polynomials in `y` -/
theorem marsden_poly (t : List ℝ) (hs : SortedKnots t) (K : Nat) (hK : 1 ≤ K)
    (he : EndKnots t K) (x : ℝ) (hx0 : knot t 0 ≤ x) (hx1 : x ≤ knot t (t.length - 1)) :
    ∑ i ∈ range (t.length - K), C (bsplev t x K i K) * psiPoly t (K - 1) i = (X + C (-x)) ^ (K - 1) := by
  apply Polynomial.funext
  intro y
  rw [eval_finsetSum]
  simp only [eval_mul, eval_C, psiPoly_eval, eval_pow, eval_add, eval_X]
  have := marsden_domain t hs K hK he x y hx0 hx1
  rw [← sub_eq_add_neg, ← this]
  apply sum_congr rfl
  intro i _; ring

/-- the monomials `x^d`, `d < K`, are splines (coefficients from Marsden's identity) -/
theorem monomial_in_span (t : List ℝ) (hs : SortedKnots t) (K : Nat) (hK : 1 ≤ K)
    (he : EndKnots t K) (x : ℝ) (hx0 : knot t 0 ≤ x) (hx1 : x ≤ knot t (t.length - 1))
    (d : Nat) (hd : d < K) :
    ∑ i ∈ range (t.length - K),
        ((-1) ^ d / ((K - 1).choose (K - 1 - d) : ℝ) * (psiPoly t (K - 1) i).coeff (K - 1 - d))
          * bsplev t x K i K
      = x ^ d := by
  have h := congrArg (fun q : ℝ[X] => q.coeff (K - 1 - d)) (marsden_poly t hs K hK he x hx0 hx1)
  simp only [finsetSum_coeff, coeff_C_mul, coeff_X_add_C_pow] at h
  have hkd : K - 1 - (K - 1 - d) = d := by omega
  rw [hkd] at h
  have hch : ((K - 1).choose (K - 1 - d) : ℝ) ≠ 0 := by
    have : 0 < (K - 1).choose (K - 1 - d) := Nat.choose_pos (by omega)
    exact_mod_cast this.ne'
  have hx : x ^ d
      = (-1) ^ d / ((K - 1).choose (K - 1 - d) : ℝ) * ((-x) ^ d * ((K - 1).choose (K - 1 - d) : ℝ)) := by
    have h1 : (-1 : ℝ) ^ d * (-x) ^ d = x ^ d := by rw [← mul_pow]; simp
    field_simp
    exact h1.symm
  rw [hx, ← h, mul_sum]
  apply sum_congr rfl
  intro i _; ring

/-- the B-spline coefficients of a polynomial of degree below the order -/
noncomputable def marsdenCoef (t : List ℝ) (K : Nat) (p : ℝ[X]) (i : Nat) : ℝ :=
  ∑ d ∈ range K, p.coeff d * ((-1) ^ d / ((K - 1).choose (K - 1 - d) : ℝ) * (psiPoly t (K - 1) i).coeff (K - 1 - d))

/-- EVERY POLYNOMIAL OF DEGREE BELOW THE ORDER IS A SPLINE on the whole domain, right end point included. -/
theorem poly_in_span (t : List ℝ) (hs : SortedKnots t) (K : Nat) (hK : 1 ≤ K)
    (he : EndKnots t K) (p : ℝ[X]) (hp : p.natDegree < K)
    (x : ℝ) (hx0 : knot t 0 ≤ x) (hx1 : x ≤ knot t (t.length - 1)) :
    ∑ i ∈ range (t.length - K), marsdenCoef t K p i * bsplev t x K i K = p.eval x := by
  rw [eval_eq_sum_range' hp x]
  unfold marsdenCoef
  simp only [sum_mul]
  rw [sum_comm]
  apply sum_congr rfl
  intro d hd
  rw [mem_range] at hd
  rw [← monomial_in_span t hs K hK he x hx0 hx1 d hd, mul_sum]
  apply sum_congr rfl
  intro i _; ring

end Rateslib
