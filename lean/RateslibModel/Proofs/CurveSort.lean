/-
What `Curve.new` does to the supplied nodes: `sortByKey` is a sorted permutation and does not depend on
the supply order; the sorted nodes are then tagged by position, through `(List.range n).zip`.
-/
import RateslibModel.Model.Curve
import Mathlib.Data.List.Nodup
namespace Rateslib
open List

variable {β : Type}

theorem perm_insertByKey (k : Int) (v : β) : ∀ l : List (Int × β), insertByKey k v l ~ (k, v) :: l := by
  intro l
  induction l with
  | nil => exact Perm.refl _
  | cons p rest ih =>
    obtain ⟨k', v'⟩ := p
    unfold insertByKey
    split
    · exact Perm.refl _
    · exact (Perm.cons _ ih).trans (Perm.swap _ _ _)

theorem perm_sortByKey : ∀ l : List (Int × β), sortByKey l ~ l := by
  intro l
  induction l with
  | nil => exact Perm.refl _
  | cons p rest ih =>
    show insertByKey p.1 p.2 (sortByKey rest) ~ p :: rest
    exact (perm_insertByKey p.1 p.2 _).trans (Perm.cons _ ih)

theorem sorted_insertByKey (k : Int) (v : β) : ∀ l : List (Int × β),
    l.Pairwise (fun p q => p.1 ≤ q.1) → (insertByKey k v l).Pairwise (fun p q => p.1 ≤ q.1) := by
  intro l
  induction l with
  | nil => intro _; simp [insertByKey]
  | cons p rest ih =>
    intro h
    obtain ⟨k', v'⟩ := p
    rw [pairwise_cons] at h
    unfold insertByKey
    split
    · rename_i hlt
      rw [pairwise_cons]
      refine ⟨?_, pairwise_cons.2 h⟩
      intro q hq
      rcases mem_cons.1 hq with rfl | hq
      · simp only; omega
      · have := h.1 q hq; simp only at this ⊢; omega
    · rename_i hge
      rw [pairwise_cons]
      refine ⟨?_, ih h.2⟩
      intro q hq
      have hq' := (perm_insertByKey k v rest).mem_iff.1 hq
      rcases mem_cons.1 hq' with rfl | hq'
      · simp only; omega
      · exact h.1 q hq'

theorem sorted_sortByKey : ∀ l : List (Int × β), (sortByKey l).Pairwise (fun p q => p.1 ≤ q.1) := by
  intro l
  induction l with
  | nil => simp [sortByKey]
  | cons p rest ih => exact sorted_insertByKey p.1 p.2 _ ih

/-- the supply order of the nodes does not matter (distinct dates) -/
theorem sortByKey_perm_invariant (l₁ l₂ : List (Int × β)) (hp : l₁ ~ l₂)
    (hd : (l₁.map Prod.fst).Nodup) : sortByKey l₁ = sortByKey l₂ := by
  have hperm : sortByKey l₁ ~ sortByKey l₂ :=
    (perm_sortByKey l₁).trans (hp.trans (perm_sortByKey l₂).symm)
  refine Perm.eq_of_pairwise ?_ (sorted_sortByKey l₁) (sorted_sortByKey l₂) hperm
  intro a b ha hb hab hba
  have ha' : a ∈ l₁ := (perm_sortByKey l₁).mem_iff.1 ha
  have hb' : b ∈ l₁ := hp.mem_iff.2 ((perm_sortByKey l₂).mem_iff.1 hb)
  -- distinct keys: equal key ⇒ equal pair
  exact List.inj_on_of_nodup_map hd ha' hb' (Int.le_antisymm hab hba)

theorem getD_getVariableTags (id : String) {n i : Nat} (h : i < n) :
    (getVariableTags id n).getD i "" = id ++ toString i := by
  simp [getVariableTags, h]

theorem map_zip_range_congr {β γ : Type} (v : List β) (f g : Nat × β → γ)
    (h : ∀ i x, i < v.length → f (i, x) = g (i, x)) :
    ((List.range v.length).zip v).map f = ((List.range v.length).zip v).map g :=
  List.map_congr_left fun p hp => h p.1 p.2 (List.mem_range.1 (List.of_mem_zip hp).1)

theorem zip_range_map_f64 {α γ : Type} (xs : List α) (g : Nat × Number α → γ) (g' : Nat × α → γ)
    (h : ∀ i x, g (i, Number.f64 x) = g' (i, x)) :
    ((List.range xs.length).zip (xs.map Number.f64)).map g
      = ((List.range xs.length).zip xs).map g' := by
  rw [List.zip_map_right, List.map_map]
  exact List.map_congr_left fun p _ => h p.1 p.2

end Rateslib
