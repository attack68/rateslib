/-
The rule tables of C07.  Membership in `ruleDates` read back as "some rule, some reference year"
(`mem_ruleDates`); soundness of the merge walk `subsetSorted`; the merge walk `removeAsc` that the kernel runs
in place of a quadratic `filter`.
-/
import RateslibModel.Model.Holidays
namespace Rateslib

theorem mem_insertU (x y : Int) : ∀ l : List Int, y ∈ insertU x l ↔ y = x ∨ y ∈ l := by
  intro l
  induction l with
  | nil => simp [insertU]
  | cons z zs ih =>
    unfold insertU
    split
    · simp
    · split
      · rename_i h; subst h; simp
      · rw [List.mem_cons, ih, List.mem_cons]; exact or_left_comm

theorem mem_sortU (y : Int) : ∀ l : List Int, y ∈ sortU l ↔ y ∈ l := by
  intro l
  induction l with
  | nil => simp [sortU]
  | cons x xs ih =>
    have : sortU (x :: xs) = insertU x (sortU xs) := rfl
    rw [this, mem_insertU, ih]; simp

/-- semantic reading of the generated table: a date is in `ruleDates rs` iff it lies in the supported
range, is a Monday–Friday, and is an observed date of some rule for some reference year -/
theorem mem_ruleDates (rs : List Rule) (d : Int) :
    d ∈ ruleDates rs ↔
      (rangeLo ≤ d ∧ d ≤ rangeHi ∧ isMonFri d = true ∧ ∃ y ∈ refYears, ∃ r ∈ rs, d ∈ r.dates y) := by
  unfold ruleDates
  simp only [List.mem_flatten, List.mem_map]
  constructor
  · rintro ⟨l, ⟨y, hy, rfl⟩, hd⟩
    unfold yearDates at hd
    rw [mem_sortU, List.mem_filter] at hd
    obtain ⟨hm, hf⟩ := hd
    simp only [List.mem_flatten, List.mem_map] at hm
    obtain ⟨l', ⟨r, hr, rfl⟩, hd'⟩ := hm
    simp only [Bool.and_eq_true, decide_eq_true_eq] at hf
    exact ⟨hf.1.1, hf.1.2, hf.2, y, hy, r, hr, hd'⟩
  · rintro ⟨h1, h2, h3, y, hy, r, hr, hd⟩
    refine ⟨yearDates rs y, ⟨y, hy, rfl⟩, ?_⟩
    unfold yearDates
    rw [mem_sortU, List.mem_filter]
    refine ⟨?_, by simp [h1, h2, h3]⟩
    simp only [List.mem_flatten, List.mem_map]
    exact ⟨r.dates y, ⟨r, hr, rfl⟩, hd⟩

/-- a table equal to the rule-generated one, read through `mem_ruleDates` (the form of `C07_full_*`) -/
theorem mem_table_iff {tbl mask : List Int} {rs : List Rule} (h : tbl = ruleDates rs ∧ mask = [5, 6])
    (d : Int) :
    (d ∈ tbl ↔
      (rangeLo ≤ d ∧ d ≤ rangeHi ∧ isMonFri d = true ∧ ∃ y ∈ refYears, ∃ r ∈ rs, d ∈ r.dates y))
    ∧ mask = [5, 6] :=
  h.1 ▸ ⟨mem_ruleDates rs d, h.2⟩

theorem subsetSorted_sound : ∀ (a b : List Int), subsetSorted a b = true → ∀ x ∈ a, x ∈ b := by
  intro a b
  induction a, b using subsetSorted.induct with
  | case1 b => intro _ x hx; cases hx
  | case2 x xs => intro h; simp [subsetSorted] at h
  | case3 xs y ys ih =>
    intro h z hz
    rw [subsetSorted, if_pos rfl] at h
    rcases List.mem_cons.1 hz with rfl | hz
    · simp
    · exact ih h z hz
  | case4 x xs y ys hne hlt ih =>
    intro h z hz
    rw [subsetSorted, if_neg hne, if_pos hlt] at h
    exact List.mem_cons_of_mem _ (ih h z hz)
  | case5 x xs y ys hne hlt =>
    intro h
    rw [subsetSorted, if_neg hne, if_neg hlt] at h
    cases h

/-! `l.filter (fun d => !g.contains d)` costs `|l|·|g|` comparisons when the kernel evaluates it; on ascending
lists the merge walk `removeAsc` computes the same list in `|l| + |g|` steps. -/

def removeAsc : List Int → List Int → List Int
  | [], _ => []
  | x :: xs, g =>
    let g' := g.dropWhile (· < x)
    if g'.head? = some x then removeAsc xs g' else x :: removeAsc xs g'

/-- strictly ascending, decided in one pass (the `Decidable` instance of `List.Pairwise` is quadratic) -/
def ascending : List Int → Bool
  | x :: y :: l => decide (x < y) && ascending (y :: l)
  | _ => true

theorem pairwise_of_ascending : ∀ l : List Int, ascending l = true → l.Pairwise (· < ·)
  | [], _ => .nil
  | [_], _ => List.pairwise_singleton _ _
  | x :: y :: l, h => by
    simp only [ascending, Bool.and_eq_true, decide_eq_true_eq] at h
    have ih := pairwise_of_ascending (y :: l) h.2
    refine List.pairwise_cons.2 ⟨fun a ha => ?_, ih⟩
    rcases List.mem_cons.1 ha with rfl | ha
    · exact h.1
    · exact Int.lt_trans h.1 ((List.pairwise_cons.1 ih).1 a ha)

theorem contains_dropWhile_lt (x y : Int) (h : x ≤ y) :
    ∀ g : List Int, (g.dropWhile (· < x)).contains y = g.contains y
  | [] => rfl
  | z :: zs => by
    rw [List.dropWhile_cons]
    split
    · rename_i hz
      have : (y == z) = false := by simp only [decide_eq_true_eq] at hz; simp; omega
      rw [contains_dropWhile_lt x y h zs, List.contains_cons, this, Bool.false_or]
    · rfl

theorem contains_iff_head_dropWhile (x : Int) :
    ∀ g : List Int, g.Pairwise (· < ·) →
      (g.dropWhile (· < x)).contains x = decide ((g.dropWhile (· < x)).head? = some x)
  | [], _ => rfl
  | z :: zs, hg => by
    rw [List.dropWhile_cons]
    split
    · exact contains_iff_head_dropWhile x zs (List.pairwise_cons.1 hg).2
    · rename_i hz
      simp only [decide_eq_true_eq] at hz
      by_cases hxz : x = z
      · simp [hxz]
      · have : x ∉ zs := fun hm => by have := (List.pairwise_cons.1 hg).1 x hm; omega
        simp [this, hxz, Ne.symm hxz]

theorem removeAsc_eq_filter : ∀ l g : List Int, l.Pairwise (· < ·) → g.Pairwise (· < ·) →
    removeAsc l g = l.filter (fun d => !g.contains d)
  | [], _, _, _ => rfl
  | x :: xs, g, hl, hg => by
    have hxs : xs.filter (fun d => !(g.dropWhile (· < x)).contains d)
        = xs.filter (fun d => !g.contains d) :=
      List.filter_congr fun y hy => by
        rw [contains_dropWhile_lt x y (Int.le_of_lt ((List.pairwise_cons.1 hl).1 y hy))]
    rw [removeAsc, removeAsc_eq_filter xs _ (List.pairwise_cons.1 hl).2
      (hg.sublist (List.dropWhile_sublist _)), hxs, List.filter_cons,
      ← contains_dropWhile_lt x x (Int.le_refl x) g, contains_iff_head_dropWhile x g hg]
    by_cases h : (g.dropWhile (· < x)).head? = some x <;> simp [h]

end Rateslib
