/-
FX sensitivities: the relations "value u_i/u_j and sensitivity value·(λ_i − λ_j)" (first order) and its
second-order analogue are closed under the arithmetic of the triangulation (`FxRel`), so they hold of every
entry of the array `createFxArray` builds; for plain-number quotes λ is a cut of the quote tree.
-/
import RateslibModel.Proofs.FXInit
import RateslibModel.Proofs.DualOps
import RateslibModel.Analysis.Refine2
namespace Rateslib

section First
open Rateslib.Dual

/-- "`d` is the (i, j) rate", seen from the variable named `v`: well formed, value `u i / u j`, and the
sensitivity to `v` is the value times the difference of the log-derivative potential `lam` -/
def RateRel (u : Nat → ℝ) (lam : Nat → ℝ) (v : String) (i j : Nat) (d : Dual ℝ) : Prop :=
  d.WF ∧ d.real = u i / u j ∧ den d v = u i / u j * (lam i - lam j)

theorem rateRel_fxRel (u : Nat → ℝ) (hu : ∀ i, u i ≠ 0) (lam : Nat → ℝ) (v : String) :
    FxRel (τ := Dual ℝ) (RateRel u lam v) := by
  refine ⟨fun i => ?_, fun i j k x y hx hy => ?_, fun i j x hx => ?_⟩
  · refine ⟨Dual.new_wf 1 [], (div_self (hu i)).symm, ?_⟩
    show den (Dual.new (1 : ℝ) []) v = _
    rw [Dual.den_new_nil, sub_self, mul_zero]
  · obtain ⟨wx, rx, dx⟩ := hx
    obtain ⟨wy, ry, dy⟩ := hy
    have S := mul_spec false x y wx wy (by simp)
    -- the value is the product of the two values; in these the rest is polynomial
    rw [RateRel, ← div_mul_div_cancel₀ (hu j) (a := u i) (c := u k), ← rx, ← ry]
    rw [← rx] at dx
    rw [← ry] at dy
    refine ⟨S.wf, S.real, ?_⟩
    show den (Dual.mul false x y) v = _
    rw [S.den v, dx, dy]
    ring
  · obtain ⟨wx, rx, dx⟩ := hx
    have hr : x.real ≠ 0 := by rw [rx]; exact div_ne_zero (hu i) (hu j)
    rw [RateRel, ← one_div_div (u i) (u j), ← rx]
    rw [← rx] at dx
    refine ⟨Dual.wf_scaleL x _ _ wx, rfl, ?_⟩
    rw [show den (FxOps.recip x) v = -1 / (x.real * x.real) * den x v from den_scaleL x _ _ v, dx]
    field_simp
    ring

end First

/-- second order, seen from the pair of variable names `(v, w)`: additionally the stored (half)
second-order sensitivity is `½ · value · (L_v · L_w + M)`, `L` the first and `M` the second
log-derivative potential differences -/
def RateRel2 (u : Nat → ℝ) (lv lw mu : Nat → ℝ) (v w : String) (i j : Nat) (d : Dual2 ℝ) : Prop :=
  d.WF ∧ d.real = u i / u j ∧ Dual2.den d v = u i / u j * (lv i - lv j) ∧
  Dual2.den d w = u i / u j * (lw i - lw j) ∧
  Dual2.den2 d v w = 1 / 2 * (u i / u j) * ((lv i - lv j) * (lw i - lw j) + (mu i - mu j))

/-- The potential differences add along `i → j → k` under the product and change sign under the reciprocal; the
second-order term then is the product rule (resp. the `1/x` chain rule) of the stored half-Hessian. -/
theorem rateRel2_fxRel (u : Nat → ℝ) (hu : ∀ i, u i ≠ 0) (lv lw mu : Nat → ℝ) (v w : String) :
    FxRel (τ := Dual2 ℝ) (RateRel2 u lv lw mu v w) := by
  refine ⟨fun i => ?_, fun i j k x y hx hy => ?_, fun i j x hx => ?_⟩
  · obtain ⟨w1, r1, d1, d2⟩ := Dual2.new_const_spec 1
    refine ⟨w1, ?_, ?_, ?_, ?_⟩
    · show (Dual2.new (1 : ℝ) []).real = _; rw [r1, div_self (hu i)]
    · show Dual2.den (Dual2.new (1 : ℝ) []) v = _; rw [d1 v]; ring
    · show Dual2.den (Dual2.new (1 : ℝ) []) w = _; rw [d1 w]; ring
    · show Dual2.den2 (Dual2.new (1 : ℝ) []) v w = _; rw [d2 v w]; ring
  · obtain ⟨wx, rx, dxv, dxw, hx2⟩ := hx
    obtain ⟨wy, ry, dyv, dyw, hy2⟩ := hy
    have S := Dual2.mul_spec false x y wx wy (by simp)
    -- as at first order: in the two values everything is polynomial
    rw [RateRel2, ← div_mul_div_cancel₀ (hu j) (a := u i) (c := u k), ← rx, ← ry]
    rw [← rx] at dxv dxw hx2
    rw [← ry] at dyv dyw hy2
    refine ⟨S.wf, S.real, ?_, ?_, ?_⟩
    · show Dual2.den (Dual2.mul false x y) v = _
      rw [S.den v, dxv, dyv]
      ring
    · show Dual2.den (Dual2.mul false x y) w = _
      rw [S.den w, dxw, dyw]
      ring
    · show Dual2.den2 (Dual2.mul false x y) v w = _
      rw [S.den2 v w, hx2, hy2, dxv, dyv, dxw, dyw, half]
      ring
  · obtain ⟨wx, rx, dxv, dxw, hx2⟩ := hx
    have hr : x.real ≠ 0 := by rw [rx]; exact div_ne_zero (hu i) (hu j)
    have S : ChainSpec x (Dual2.fDiv 1 x) (1 / x.real) (-1 / (x.real * x.real))
        (1 / (x.real * x.real * x.real)) := Dual2.chain_shape_spec x wx _ _ _
    rw [RateRel2, ← one_div_div (u i) (u j), ← rx]
    rw [← rx] at dxv dxw hx2
    refine ⟨S.wf, rfl, ?_, ?_, ?_⟩
    · show Dual2.den (Dual2.fDiv 1 x) v = _
      rw [S.den v, dxv]
      field_simp
      ring
    · show Dual2.den (Dual2.fDiv 1 x) w = _
      rw [S.den w, dxw]
      field_simp
      ring
    · show Dual2.den2 (Dual2.fDiv 1 x) v w = _
      rw [S.den2 v w, hx2, dxv, dxw]
      field_simp
      ring

section
variable {α : Type} [Add α] [Sub α] [Mul α] [Div α] [Neg α] [OfNat α 0] [OfNat α 1] [OfNat α 2]
  [Transc α]

/-- the seed list of `create_fx_array`: index pair and lifted rate of every quote -/
def liftQuotes {τ : Type} (conv : Number α → τ) (currencies : List String) (quotes : List (FXQuote α))
    (ad : ADOrder) : List (Nat × Nat × τ) :=
  quotes.map fun q =>
    ((pairIdx currencies q).1, (pairIdx currencies q).2, conv (setOrder q.rate ad [fxVarName q]))

omit [Sub α] [Transc α] in
theorem createFxArray_zero (currencies : List String) (quotes : List (FXQuote α)) :
    createFxArray currencies quotes .zero = (fill currencies.length (fillFuel currencies.length)
      (initArr (liftQuotes Number.toF64 currencies quotes .zero) (0 : α)) []).map fun a => .f64 a.fx := by
  simp only [createFxArray, liftQuotes, List.map_map]
  rfl

omit [Sub α] [Transc α] in
theorem createFxArray_one (currencies : List String) (quotes : List (FXQuote α)) :
    createFxArray currencies quotes .one = (fill currencies.length (fillFuel currencies.length)
      (initArr (liftQuotes Number.toDual currencies quotes .one) (Dual.new (0 : α) [])) []).map
        fun a => .dual a.fx := by
  simp only [createFxArray, liftQuotes, List.map_map]
  rfl

omit [Sub α] [Transc α] in
theorem createFxArray_two (currencies : List String) (quotes : List (FXQuote α)) :
    createFxArray currencies quotes .two = (fill currencies.length (fillFuel currencies.length)
      (initArr (liftQuotes Number.toDual2 currencies quotes .two) (Dual2.new (0 : α) [])) []).map
        fun a => .dual2 a.fx := by
  simp only [createFxArray, liftQuotes, List.map_map]
  rfl

omit [Sub α] [OfNat α 2] [Transc α] in
theorem real_fxHom : FxHom (τ := Dual α) (σ := α) (fun d => d.real) :=
  ⟨fun a b => congrArg₂ (· * ·) (Dual.aligned_real false a b).1 (Dual.aligned_real false a b).2,
    fun _ => rfl⟩

end

/-- if the lifted quotes satisfy `RateRel u lam v`, so does every entry of the triangulated first-order
array (= `C10_sensitivity_general`, where the statement is explained) -/
theorem fxArray_rateRel (currencies : List String) (quotes : List (FXQuote ℝ)) (u : Nat → ℝ)
    (hu : ∀ i, u i ≠ 0) (lam : Nat → ℝ) (v : String)
    (hq : ∀ q ∈ quotes, RateRel u lam v (pairIdx currencies q).1 (pairIdx currencies q).2
      (setOrder q.rate .one [fxVarName q]).toDual)
    (a1 : Nat → Nat → Dual ℝ) (h1 : createFxArray currencies quotes .one = some (.dual a1)) :
    ∀ i j, i < currencies.length → j < currencies.length → RateRel u lam v i j (a1 i j) := by
  rw [createFxArray_one, Option.map_eq_some_iff] at h1
  obtain ⟨A, hf, hA⟩ := h1
  obtain rfl : A.fx = a1 := by injection hA
  intro i j hi hj
  refine (fill_init_rel (rateRel_fxRel u hu lam v) _ _ _ _ (fun p hp => ?_) A hf i j hi hj).2
  obtain ⟨q, hqm, rfl⟩ := List.mem_map.1 hp
  exact hq q hqm

/-- the same at second order: `RateRel2` passes from the lifted quotes to every entry of the array -/
theorem fxArray_rateRel2 (currencies : List String) (quotes : List (FXQuote ℝ)) (u : Nat → ℝ)
    (hu : ∀ i, u i ≠ 0) (lv lw mu : Nat → ℝ) (v w : String)
    (hq : ∀ q ∈ quotes, RateRel2 u lv lw mu v w (pairIdx currencies q).1 (pairIdx currencies q).2
      (setOrder q.rate .two [fxVarName q]).toDual2)
    (a2 : Nat → Nat → Dual2 ℝ) (h2 : createFxArray currencies quotes .two = some (.dual2 a2)) :
    ∀ i j, i < currencies.length → j < currencies.length → RateRel2 u lv lw mu v w i j (a2 i j) := by
  rw [createFxArray_two, Option.map_eq_some_iff] at h2
  obtain ⟨A, hf, hA⟩ := h2
  obtain rfl : A.fx = a2 := by injection hA
  intro i j hi hj
  refine (fill_init_rel (rateRel2_fxRel u hu lv lw mu v w) _ _ _ _ (fun p hp => ?_) A hf i j hi hj).2
  obtain ⟨q, hqm, rfl⟩ := List.mem_map.1 hp
  exact hq q hqm

/-- A quote `q` (plain number `f`) seen from the variable of a quote `q0` (plain number `f0`) through a
cut `σ` that `q0` crosses (σ a0 − σ b0 = 1) and `q`, if it is another quote, does not: the unit
sensitivity of `q` to its own variable is `f` times the difference of the potential `σ / f0`. -/
theorem cut_logderiv (currencies : List String) (q q0 : FXQuote ℝ) (f f0 : ℝ) (hf : q.rate = .f64 f)
    (hfne : f ≠ 0) (hf0 : q0.rate = .f64 f0)
    (σ : Nat → ℝ) (h0 : σ (pairIdx currencies q0).1 - σ (pairIdx currencies q0).2 = 1)
    (hoth : fxVarName q ≠ fxVarName q0 → σ (pairIdx currencies q).1 = σ (pairIdx currencies q).2)
    (hsame : fxVarName q = fxVarName q0 →
      pairIdx currencies q = pairIdx currencies q0 ∧ q.rate = q0.rate) :
    (if fxVarName q0 ∈ [fxVarName q] then (1 : ℝ) else 0)
      = f * (σ (pairIdx currencies q).1 / f0 - σ (pairIdx currencies q).2 / f0) := by
  by_cases hn : fxVarName q = fxVarName q0
  · obtain ⟨hp, hr⟩ := hsame hn
    obtain rfl : f = f0 := by
      rw [hf, hf0] at hr
      injection hr
    rw [if_pos (List.mem_singleton.2 hn.symm), hp, ← sub_div, h0, mul_one_div_cancel hfne]
  · rw [if_neg fun h => hn (List.mem_singleton.1 h).symm, hoth hn, sub_self, mul_zero]

/-- a plain-number quote satisfies the second-order relation for log-derivative potentials that fit its
unit sensitivities and whose second-order part vanishes across it -/
theorem plain_rateRel2 (currencies : List String) (u lv lw mu : Nat → ℝ) (v w : String)
    (q : FXQuote ℝ) (f : ℝ)
    (hf : q.rate = .f64 f) (hfu : f = u (pairIdx currencies q).1 / u (pairIdx currencies q).2)
    (hv : (if v ∈ [fxVarName q] then (1 : ℝ) else 0)
      = f * (lv (pairIdx currencies q).1 - lv (pairIdx currencies q).2))
    (hw : (if w ∈ [fxVarName q] then (1 : ℝ) else 0)
      = f * (lw (pairIdx currencies q).1 - lw (pairIdx currencies q).2))
    (h2 : (lv (pairIdx currencies q).1 - lv (pairIdx currencies q).2) *
        (lw (pairIdx currencies q).1 - lw (pairIdx currencies q).2) +
      (mu (pairIdx currencies q).1 - mu (pairIdx currencies q).2) = 0) :
    RateRel2 u lv lw mu v w (pairIdx currencies q).1 (pairIdx currencies q).2
      (setOrder q.rate .two [fxVarName q]).toDual2 := by
  rw [hf]
  show RateRel2 u _ _ _ _ _ _ _ (Dual2.new f [fxVarName q])
  refine ⟨Dual2.new_wf f _, hfu, ?_, ?_, ?_⟩
  · rw [Dual2.den_new, hv, hfu]
  · rw [Dual2.den_new, hw, hfu]
  · rw [Dual2.den2_new, h2, mul_zero]

end Rateslib
