/-
First-order numbers: `dedup`, freshly constructed numbers, the array operations on lists given by names, and
the specifications by name of `+`, `−`, `×`, `==` and of the gradient read-back.
-/
import RateslibModel.Proofs.DualLayout
namespace Rateslib

/-- the scalar equality test decides equality (true of `f64 ==` on non-NaN values up to ±0, of `ℝ`,
of every type with decidable equality) -/
class LawfulEqb (α : Type) [Transc α] : Prop where
  eqb_iff : ∀ x y : α, Transc.eqb x y = true ↔ x = y

theorem dedup_of_nodup : ∀ (l : List String), l.Nodup → dedup l = l := by
  intro l
  induction l with
  | nil => intro _; rfl
  | cons x xs ih =>
    intro h
    rw [List.nodup_cons] at h
    unfold dedup
    rw [ih h.2]
    congr 1
    rw [List.filter_eq_self]
    intro y hy
    simp only [bne_iff_ne, ne_eq]
    rintro rfl
    exact h.1 hy

theorem mem_dedup (l : List String) (n : String) : n ∈ dedup l ↔ n ∈ l := by
  induction l with
  | nil => simp [dedup]
  | cons x xs ih =>
    unfold dedup
    simp only [List.mem_cons, List.mem_filter, bne_iff_ne, ne_eq, ih]
    constructor
    · rintro (h | ⟨h, _⟩) <;> simp [h]
    · rintro (h | h)
      · exact Or.inl h
      · by_cases hx : n = x
        · exact Or.inl hx
        · exact Or.inr ⟨h, hx⟩

theorem nodup_dedup (l : List String) : (dedup l).Nodup := by
  induction l with
  | nil => simp [dedup]
  | cons x xs ih =>
    unfold dedup
    rw [List.nodup_cons]
    refine ⟨?_, ih.filter _⟩
    simp

section New
variable {α : Type} [OfNat α 1]

theorem Dual.new_eq_ofFun (f : α) (vs : List String) :
    Dual.new f vs = Dual.ofFun f (dedup vs) (fun _ => 1) := by
  simp only [Dual.new, Dual.ofFun, onesV, List.map_const']

theorem Dual.new_wf (real : α) (vars : List String) : (Dual.new real vars).WF :=
  Dual.new_eq_ofFun real vars ▸ Dual.ofFun_wf _ _ _ (nodup_dedup vars)

theorem Dual.den_new [OfNat α 0] (f : α) (vs : List String) (v : String) :
    Dual.den (Dual.new f vs) v = if v ∈ vs then 1 else 0 := by
  rw [Dual.new_eq_ofFun, Dual.den_ofFun]
  simp only [mem_dedup]

theorem Dual.den_new_nil [OfNat α 0] (f : α) (v : String) : Dual.den (Dual.new f []) v = 0 :=
  (Dual.den_new f [] v).trans (if_neg List.not_mem_nil)

end New

section Maps
variable {α : Type} (vs : List String)

theorem zipWith_map_same {β γ : Type} (l : List β) (f : γ → γ → γ) (g h : β → γ) :
    List.zipWith f (l.map g) (l.map h) = l.map (fun x => f (g x) (h x)) := by
  rw [List.zipWith_map, List.zipWith_self]

theorem vadd_map [Add α] (f g : String → α) : vadd (vs.map f) (vs.map g) = vs.map (fun n => f n + g n) :=
  zipWith_map_same vs _ f g
theorem vsub_map [Sub α] (f g : String → α) : vsub (vs.map f) (vs.map g) = vs.map (fun n => f n - g n) :=
  zipWith_map_same vs _ f g
theorem vscaleL_map [Mul α] (s : α) (f : String → α) : vscaleL s (vs.map f) = vs.map (fun n => s * f n) :=
  List.map_map
theorem vscaleR_map [Mul α] (s : α) (f : String → α) : vscaleR (vs.map f) s = vs.map (fun n => f n * s) :=
  List.map_map
theorem vneg_map [Neg α] (f : String → α) : vneg (vs.map f) = vs.map (fun n => - f n) := List.map_map

end Maps

namespace Dual
variable {α : Type} [CommRing α]

theorem den_scaleR (x : Dual α) (s r : α) (n : String) :
    den ⟨r, x.vars, vscaleR x.dual s⟩ n = den x n * s :=
  L1_map _ _ _ (zero_mul s) n

theorem den_scaleL (x : Dual α) (s r : α) (n : String) :
    den ⟨r, x.vars, vscaleL s x.dual⟩ n = s * den x n :=
  L1_map _ _ _ (mul_zero s) n

theorem den_neg (x : Dual α) (r : α) (n : String) :
    den ⟨r, x.vars, vneg x.dual⟩ n = - den x n :=
  L1_map _ _ _ neg_zero n

theorem wf_scaleL (x : Dual α) (s r : α) (h : x.WF) : (⟨r, x.vars, vscaleL s x.dual⟩ : Dual α).WF :=
  ⟨h.1, by simp [vscaleL, h.2]⟩
theorem wf_scaleR (x : Dual α) (s r : α) (h : x.WF) : (⟨r, x.vars, vscaleR x.dual s⟩ : Dual α).WF :=
  ⟨h.1, by simp [vscaleR, h.2]⟩
theorem wf_neg (x : Dual α) (r : α) (h : x.WF) : (⟨r, x.vars, vneg x.dual⟩ : Dual α).WF :=
  ⟨h.1, by simp [vneg, h.2]⟩

/-- `r` is a result of a binary operation on `a`, `b`: well formed, with exactly the union of their names, value
`fr` and derivative `fd n` by the name `n` -/
structure OpSpec (a b r : Dual α) (fr : α) (fd : String → α) : Prop where
  wf : r.WF
  mem : ∀ n, n ∈ r.vars ↔ n ∈ a.vars ∨ n ∈ b.vars
  real : r.real = fr
  den : ∀ n, Dual.den r n = fd n

/-- off any list `cv` holding the number's names (the common list of `aligned_eq`) its derivatives vanish -/
theorem den_off {cv : List String} {a : Dual α} (ha : ∀ n ∈ a.vars, n ∈ cv) {n : String} (h : n ∉ cv) :
    den a n = 0 :=
  den_not_mem a n (fun h' => h (ha n h'))

/-- A result in normal form on the common list whose derivative vanishes wherever the operands' do: off
the common list both do. -/
theorem OpSpec.of_ofFun {a b : Dual α} {cv : List String} {fr : α} {G : String → α}
    (hn : cv.Nodup) (hm : ∀ n, n ∈ cv ↔ n ∈ a.vars ∨ n ∈ b.vars)
    (hG : ∀ n, Dual.den a n = 0 → Dual.den b n = 0 → G n = 0) :
    OpSpec a b (ofFun fr cv G) fr G := by
  have sa : ∀ n ∈ a.vars, n ∈ cv := fun n h => (hm n).2 (Or.inl h)
  have sb : ∀ n ∈ b.vars, n ∈ cv := fun n h => (hm n).2 (Or.inr h)
  refine ⟨ofFun_wf _ _ _ hn, hm, rfl, fun n => ?_⟩
  rw [den_ofFun]
  split_ifs with h
  · rfl
  · exact (hG n (den_off sa h) (den_off sb h)).symm

theorem add_spec (p : Bool) (a b : Dual α) (ha : a.WF) (hb : b.WF) (hp : p = true → a.vars = b.vars) :
    OpSpec a b (add p a b) (a.real + b.real) (fun n => den a n + den b n) := by
  obtain ⟨cv, hn, hm, hal⟩ := aligned_eq p a b ha hb hp
  simp only [add, hal, ofFun, vadd_map]
  exact .of_ofFun hn hm (fun n h1 h2 => by rw [h1, h2, add_zero])

theorem sub_spec (p : Bool) (a b : Dual α) (ha : a.WF) (hb : b.WF) (hp : p = true → a.vars = b.vars) :
    OpSpec a b (sub p a b) (a.real - b.real) (fun n => den a n - den b n) := by
  obtain ⟨cv, hn, hm, hal⟩ := aligned_eq p a b ha hb hp
  simp only [sub, hal, ofFun, vsub_map]
  exact .of_ofFun hn hm (fun n h1 h2 => by rw [h1, h2, sub_zero])

theorem mul_spec (p : Bool) (a b : Dual α) (ha : a.WF) (hb : b.WF) (hp : p = true → a.vars = b.vars) :
    OpSpec a b (mul p a b) (a.real * b.real)
      (fun n => den a n * b.real + den b n * a.real) := by
  obtain ⟨cv, hn, hm, hal⟩ := aligned_eq p a b ha hb hp
  simp only [mul, hal, ofFun, vadd_map, vscaleR_map]
  exact .of_ofFun hn hm (fun n h1 h2 => by rw [h1, h2, zero_mul, zero_mul, add_zero])

omit [CommRing α] in
theorem zipWith_eqb_all [Transc α] [LawfulEqb α] : ∀ (l1 l2 : List α), l1.length = l2.length →
    ((List.zipWith Transc.eqb l1 l2).all id = true ↔ l1 = l2) := by
  intro l1
  induction l1 with
  | nil => intro l2 h; cases l2 <;> simp_all
  | cons x xs ih =>
    intro l2 h
    cases l2 with
    | nil => simp at h
    | cons y ys =>
      simp only [List.length_cons, Nat.add_right_cancel_iff] at h
      simp only [List.zipWith_cons_cons, List.all_cons, id, Bool.and_eq_true, List.cons.injEq,
        LawfulEqb.eqb_iff, ih ys h]

theorem map_den_eq_iff {cv : List String} {a b : Dual α} (sa : ∀ n ∈ a.vars, n ∈ cv)
    (sb : ∀ n ∈ b.vars, n ∈ cv) : cv.map (den a) = cv.map (den b) ↔ ∀ n, den a n = den b n := by
  rw [List.map_inj_left]
  refine ⟨fun h n => ?_, fun h n _ => h n⟩
  by_cases hn : n ∈ cv
  · exact h n hn
  · rw [den_off sa hn, den_off sb hn]

/-- equality treats a missing variable and a zero derivative as the same thing -/
theorem eq_spec [Transc α] [LawfulEqb α] (p : Bool) (a b : Dual α) (ha : a.WF) (hb : b.WF)
    (hp : p = true → a.vars = b.vars) :
    eq p a b = true ↔ (a.real = b.real ∧ ∀ n, den a n = den b n) := by
  obtain ⟨cv, _, hm, hal⟩ := aligned_eq p a b ha hb hp
  unfold eq
  split_ifs with hr
  · -- values differ: `eq` answers false and the first conjunct fails
    simpa [← LawfulEqb.eqb_iff] using fun h => absurd h (by simpa using hr)
  · -- on normal forms over `cv` the lengths agree, entrywise `eqb` is equality of the lists
    -- (`zipWith_eqb_all`), and equal lists of entries along `cv` mean equal derivatives by every name
    simp only [hal, ofFun, List.length_map, beq_self_eq_true, Bool.true_and,
      zipWith_eqb_all _ _ ((List.length_map _).trans (List.length_map _).symm),
      map_den_eq_iff (fun n h => (hm n).2 (Or.inl h)) (fun n h => (hm n).2 (Or.inr h)),
      ← LawfulEqb.eqb_iff a.real, iff_and_self]
    -- `iff_and_self` leaves: lists agree → `a.real = b.real`, which holds here (`hr`)
    exact fun _ => by simpa using hr

/-- the gradient read-back is the re-indexing of `new_from` onto the list asked for, its array kept -/
theorem gradient1_eq_toNewVars (d : Dual α) (vs : List String) :
    d.gradient1 vs = (d.toNewVars (dedup vs) (varsCmp false d.vars (dedup vs))).dual := by
  unfold gradient1
  simp only
  cases varsCmp false d.vars (dedup vs) <;> rfl

/-- gradients are read back by name, in the order asked for -/
theorem gradient1_spec (d : Dual α) (vs : List String) (hd : d.WF) (hv : vs.Nodup) :
    d.gradient1 vs = vs.map (den d) := by
  rw [gradient1_eq_toNewVars, dedup_of_nodup vs hv, toNewVars_cmp_eq d vs hd]
  rfl

end Dual
end Rateslib
