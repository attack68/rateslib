/-
Graph theory for C09/C10: `n − 1` edges that connect `n` vertices form a tree, and on a tree EVERY assignment
of group elements to the edges is a coboundary — there is a potential `φ` with `φ a / φ b = g` on every edge
`(a, b, g)`.  Proved by taking the edges one at a time, union–find fashion: every edge either merges two
classes (the potential of one class is rescaled so that the new edge fits; edges inside a class keep their
ratios) or closes a cycle; the number of classes is `n −` (number of merging edges); connectedness leaves one
class at the end, so all `n − 1` edges merged, and all of them fit.
-/
import Mathlib.Data.Finset.Card
import Mathlib.Tactic.Ring
namespace Rateslib

/-- the edges connect all `n` vertices: every non-empty vertex set closed under the edges is everything -/
def ConnectedE {G : Type} (n : Nat) (edges : List (Nat × Nat × G)) : Prop :=
  ∀ S : Nat → Prop, (∀ e ∈ edges, S e.1 ↔ S e.2.1) → (∃ i, i < n ∧ S i) → ∀ j, j < n → S j

section Potential
variable {G : Type} [CommGroup G]

/-- For every edge list: classes of vertices (`rep`, constant along every edge), `k` edges that merged two
classes, hence `n − k` classes, and a potential `φ` that fits every edge as long as every edge merged. -/
theorem classes_potential (n : Nat) (edges : List (Nat × Nat × G))
    (hidx : ∀ e ∈ edges, e.1 < n ∧ e.2.1 < n) :
    ∃ (rep : Nat → Nat) (φ : Nat → G) (k : Nat), (∀ e ∈ edges, rep e.1 = rep e.2.1) ∧
      ((Finset.range n).image rep).card + k = n ∧ k ≤ edges.length ∧
      (k = edges.length → ∀ e ∈ edges, φ e.1 / φ e.2.1 = e.2.2) := by
  induction edges with
  | nil => exact ⟨id, fun _ => 1, 0, by simp⟩
  | cons e es ih =>
    obtain ⟨⟨ha, hb⟩, hes⟩ := List.forall_mem_cons.1 hidx
    obtain ⟨rep, φ, k, hsame, hcount, hk, hfits⟩ := ih hes
    rw [List.length_cons]
    by_cases hc : rep e.1 = rep e.2.1
    · -- `e` closes a cycle: from now on not every edge has merged
      exact ⟨rep, φ, k, List.forall_mem_cons.2 ⟨hc, hsame⟩, hcount, Nat.le_succ_of_le hk, fun h => by omega⟩
    · refine ⟨fun j => if rep j = rep e.2.1 then rep e.1 else rep j,
        fun j => if rep j = rep e.2.1 then φ j * (φ e.1 / (e.2.2 * φ e.2.1)) else φ j, k + 1,
        List.forall_mem_cons.2 ⟨by simp [hc], fun e' he' => by simp only [hsame e' he']⟩, ?_,
        Nat.succ_le_succ hk, fun h => List.forall_mem_cons.2 ⟨?_, fun e' he' => ?_⟩⟩
      · -- the classes: the class of `e.2.1` disappears
        have hmem : rep e.2.1 ∈ (Finset.range n).image rep :=
          Finset.mem_image.2 ⟨e.2.1, Finset.mem_range.2 hb, rfl⟩
        have himg : (Finset.range n).image (fun j => if rep j = rep e.2.1 then rep e.1 else rep j)
            = ((Finset.range n).image rep).erase (rep e.2.1) := by
          ext x
          simp only [Finset.mem_image, Finset.mem_range, Finset.mem_erase]
          constructor
          · rintro ⟨j, hj, rfl⟩
            by_cases hq : rep j = rep e.2.1
            · rw [if_pos hq]; exact ⟨hc, e.1, ha, rfl⟩
            · rw [if_neg hq]; exact ⟨hq, j, hj, rfl⟩
          · rintro ⟨hx, j, hj, rfl⟩
            exact ⟨j, hj, by rw [if_neg hx]⟩
        rw [himg, Finset.card_erase_of_mem hmem]
        have := Finset.card_pos.2 ⟨_, hmem⟩
        omega
      · simp only [if_neg hc, if_true]
        simp [div_eq_mul_inv, mul_inv_rev, mul_comm, mul_left_comm]
      · -- both ends of an earlier edge are in one class and are rescaled together
        simp only [hsame e' he']
        split
        · rw [mul_div_mul_right_eq_div]; exact hfits (by omega) e' he'
        · exact hfits (by omega) e' he'

/-- A TREE ADMITS EVERY EDGE ASSIGNMENT AS A COBOUNDARY: `n − 1` edges (listed with group elements) that
connect `n` vertices have a potential `φ` with `φ a / φ b = g` on every edge `(a, b, g)`. -/
theorem forest_potential (n : Nat) (edges : List (Nat × Nat × G))
    (hidx : ∀ e ∈ edges, e.1 < n ∧ e.2.1 < n) (hlen : edges.length + 1 = n) (hconn : ConnectedE n edges) :
    ∃ φ : Nat → G, ∀ e ∈ edges, φ e.1 / φ e.2.1 = e.2.2 := by
  obtain ⟨rep, φ, k, hsame, hcount, _, hfits⟩ := classes_potential n edges hidx
  -- connectedness: one class
  have hone : ∀ j, j < n → rep j = rep 0 :=
    hconn (fun j => rep j = rep 0) (fun e he => by rw [hsame e he]) ⟨0, by omega, rfl⟩
  have hcard : (Finset.range n).image rep = {rep 0} := by
    ext x
    simp only [Finset.mem_image, Finset.mem_range, Finset.mem_singleton]
    exact ⟨fun ⟨j, hj, h⟩ => h ▸ hone j hj, fun h => ⟨0, by omega, h.symm⟩⟩
  rw [hcard, Finset.card_singleton] at hcount
  exact ⟨φ, hfits (by omega)⟩

end Potential
end Rateslib
