/-
The triangulation `fill` (= mut_arrays_remaining_elements) and the seed `initArr` are folds of one write,
`writePair`; `fill` has one invariant rule, `fill_inv`.  From these: populated entries are never rewritten;
`fill` commutes with homomorphisms of the element arithmetic and preserves every relation closed under it
(`FxRel`), e.g. "every populated entry is u i / u j" over a field.
-/
import RateslibModel.Model.FX
import Mathlib.Tactic.FieldSimp
namespace Rateslib

variable {τ : Type} [FxOps τ]

theorem upd2_self {β : Type} (f : Nat → Nat → β) (i j : Nat) (v : β) : upd2 f i j v i j = v :=
  if_pos ⟨rfl, rfl⟩

/-- the one write of both loops: `v` at `(i, j)`, its reciprocal at `(j, i)`, both marked populated -/
def writePair (a : FxArr τ) (i j : Nat) (v : τ) : FxArr τ :=
  ⟨upd2 (upd2 a.fx i j v) j i (FxOps.recip v), upd2 (upd2 a.edges i j true) j i true⟩

theorem writePair_edges (a : FxArr τ) (i j : Nat) (v : τ) (p q : Nat) :
    (writePair a i j v).edges p q = true ↔
      a.edges p q = true ∨ (p = i ∧ q = j) ∨ (p = j ∧ q = i) := by
  simp only [writePair, upd2]
  split
  · simp [*]
  · split <;> simp [*]

theorem writePair_fx_ji (a : FxArr τ) (i j : Nat) (v : τ) : (writePair a i j v).fx j i = FxOps.recip v :=
  upd2_self _ j i _

/-- for `i = j` the reciprocal, written second, is what is stored -/
theorem writePair_fx_ij (a : FxArr τ) (i j : Nat) (v : τ) (h : ¬(i = j ∧ j = i)) :
    (writePair a i j v).fx i j = v :=
  (if_neg h).trans (upd2_self _ i j v)

theorem writePair_fx (a : FxArr τ) (i j : Nat) (v : τ) (p q : Nat) (h1 : ¬(p = i ∧ q = j))
    (h2 : ¬(p = j ∧ q = i)) : (writePair a i j v).fx p q = a.fx p q := by
  simp only [writePair, upd2, if_neg h1, if_neg h2]

def SymmEdges (a : FxArr τ) : Prop := ∀ i j, a.edges i j = a.edges j i

omit [FxOps τ] in
theorem symmEdges_iff (a : FxArr τ) : SymmEdges a ↔ ∀ i j, a.edges i j = true → a.edges j i = true :=
  ⟨fun h i j hij => h j i ▸ hij, fun h i j => Bool.eq_iff_iff.2 ⟨h i j, h j i⟩⟩

theorem writePair_symm (a : FxArr τ) (i j : Nat) (v : τ) (hs : SymmEdges a) :
    SymmEdges (writePair a i j v) := by
  rw [symmEdges_iff] at hs ⊢
  intro p q
  rw [writePair_edges, writePair_edges]
  rintro (h | h | h)
  exacts [Or.inl (hs p q h), Or.inr (Or.inr h.symm), Or.inr (Or.inl h.symm)]

/-- a relation "`x` is a legitimate (i, j) entry" closed under the arithmetic of the triangulation -/
structure FxRel (R : Nat → Nat → τ → Prop) : Prop where
  one : ∀ i, R i i FxOps.one
  mul : ∀ i j k x y, R i j x → R j k y → R i k (FxOps.mul x y)
  recip : ∀ i j x, R i j x → R j i (FxOps.recip x)

/-- every populated entry satisfies the relation -/
def ConsistentR (R : Nat → Nat → τ → Prop) (a : FxArr τ) : Prop :=
  ∀ i j, a.edges i j = true → R i j (a.fx i j)

theorem writePair_consistentR {R : Nat → Nat → τ → Prop} (H : FxRel R) (a : FxArr τ) (i j : Nat)
    (v : τ) (hc : ConsistentR R a) (hv : R i j v) : ConsistentR R (writePair a i j v) := by
  intro p q hpq
  by_cases h2 : p = j ∧ q = i
  · rw [h2.1, h2.2, writePair_fx_ji]; exact H.recip _ _ _ hv
  by_cases h1 : p = i ∧ q = j
  · rw [h1.1, h1.2] at h2 ⊢
    rw [writePair_fx_ij a i j v h2]; exact hv
  rw [writePair_fx a i j v p q h1 h2]
  exact hc p q (((writePair_edges a i j v p q).1 hpq).resolve_right (not_or.2 ⟨h1, h2⟩))

variable {σ : Type} [FxOps σ]

structure FxHom (h : τ → σ) : Prop where
  mul : ∀ a b, h (FxOps.mul a b) = FxOps.mul (h a) (h b)
  recip : ∀ a, h (FxOps.recip a) = FxOps.recip (h a)

def FxArr.map (h : τ → σ) (a : FxArr τ) : FxArr σ := ⟨fun i j => h (a.fx i j), a.edges⟩

theorem upd2_map {β γ : Type} (h : β → γ) (f : Nat → Nat → β) (i j : Nat) (v : β) :
    (fun a b => h (upd2 f i j v a b)) = upd2 (fun a b => h (f a b)) i j (h v) := by
  funext a b; simp only [upd2]; split <;> rfl

theorem writePair_map (h : τ → σ) (hh : FxHom h) (a : FxArr τ) (i j : Nat) (v : τ) :
    (writePair a i j v).map h = writePair (a.map h) i j (h v) := by
  simp only [writePair, FxArr.map, upd2_map, hh.recip]

def initStep (acc : FxArr τ) (p : Nat × Nat × τ) : FxArr τ := writePair acc p.1 p.2.1 p.2.2

/-- what `initArr` folds its quotes into: only the diagonal populated, with `one` -/
def seed0 (zero : τ) : FxArr τ :=
  ⟨fun a b => if a = b then FxOps.one else zero, fun a b => decide (a = b)⟩

theorem initArr_eq (pairs : List (Nat × Nat × τ)) (zero : τ) :
    initArr pairs zero = pairs.foldl initStep (seed0 zero) := by
  simp only [initArr, upd2_self]; rfl

def fillStep (node : Nat) (acc : FxArr τ) (c : Nat × Nat) : FxArr τ :=
  writePair acc c.1 c.2 (FxOps.mul (acc.fx c.1 node) (acc.fx node c.2))

def combosOf (n : Nat) (a : FxArr τ) (node : Nat) : List (Nat × Nat) :=
  (pairsOf ((List.range n).filter (fun i => a.edges node i && i != node))).filter (fun c => !a.edges c.1 c.2)

theorem fillNode_eq (n : Nat) (a : FxArr τ) (node : Nat) :
    fillNode n a node = ((combosOf n a node).foldl (fillStep node) a, (combosOf n a node).length) := by
  simp only [fillNode, upd2_self]; rfl

/-- the populated pairs after a run of writes at the positions `pos b`, whatever the values written -/
theorem foldl_write_edges {β : Type} (pos : β → Nat × Nat) (val : FxArr τ → β → τ) (i j : Nat) :
    ∀ (l : List β) (a : FxArr τ),
    (l.foldl (fun acc b => writePair acc (pos b).1 (pos b).2 (val acc b)) a).edges i j = true ↔
      a.edges i j = true ∨
        ∃ b ∈ l, (i = (pos b).1 ∧ j = (pos b).2) ∨ (i = (pos b).2 ∧ j = (pos b).1) := by
  intro l
  induction l with
  | nil => intro a; simp
  | cons b l ih =>
    intro a
    rw [List.foldl_cons, ih, writePair_edges]
    simp only [List.mem_cons, exists_eq_or_imp, or_assoc]

/-- on an increasing list `pairsOf` lists the pairs `x < y` -/
theorem mem_pairsOf {l : List Nat} (hl : l.Pairwise (· < ·)) (x y : Nat) :
    (x, y) ∈ pairsOf l ↔ x ∈ l ∧ y ∈ l ∧ x < y := by
  induction l with
  | nil => simp [pairsOf]
  | cons z zs ih =>
    rw [List.pairwise_cons] at hl
    simp only [pairsOf, List.mem_append, List.mem_map, Prod.mk.injEq, ih hl.2, List.mem_cons]
    constructor
    · rintro (⟨w, hw, rfl, rfl⟩ | ⟨hx, hy, hxy⟩)
      exacts [⟨Or.inl rfl, Or.inr hw, hl.1 _ hw⟩, ⟨Or.inr hx, Or.inr hy, hxy⟩]
    · rintro ⟨rfl | hx, rfl | hy, hxy⟩
      · omega
      · exact Or.inl ⟨y, hy, rfl, rfl⟩
      · have := hl.1 x hx; omega
      · exact Or.inr ⟨hx, hy, hxy⟩

omit [FxOps τ] in
/-- the pairs a pass at `v` populates: two neighbours of `v` in index order without a rate between them -/
theorem mem_combosOf (n : Nat) (a : FxArr τ) (v : Nat) (c : Nat × Nat) : c ∈ combosOf n a v ↔
    (c.1 < n ∧ a.edges v c.1 = true ∧ c.1 ≠ v) ∧ (c.2 < n ∧ a.edges v c.2 = true ∧ c.2 ≠ v) ∧
      c.1 < c.2 ∧ a.edges c.1 c.2 = false := by
  simp [combosOf, mem_pairsOf (List.Pairwise.filter _ List.pairwise_lt_range), and_assoc]

theorem fillNode_edges (n : Nat) (a : FxArr τ) (v i j : Nat) :
    (fillNode n a v).1.edges i j = true ↔
      a.edges i j = true ∨ ∃ c ∈ combosOf n a v, (i = c.1 ∧ j = c.2) ∨ (i = c.2 ∧ j = c.1) := by
  rw [fillNode_eq]; exact foldl_write_edges id _ i j _ a

theorem fillNode_mono (n : Nat) (a : FxArr τ) (v i j : Nat) (h : a.edges i j = true) :
    (fillNode n a v).1.edges i j = true :=
  (fillNode_edges n a v i j).2 (Or.inl h)

theorem fillNode_symm (n : Nat) (a : FxArr τ) (v : Nat) (hs : SymmEdges a) :
    SymmEdges (fillNode n a v).1 := by
  rw [fillNode_eq]
  exact List.foldlRecOn _ _ hs fun acc h c _ => writePair_symm acc _ _ _ h

/-- a populated entry keeps its value through one node pass -/
theorem fillNode_keeps (n : Nat) (a : FxArr τ) (node : Nat) (hs : SymmEdges a) (i j : Nat)
    (h : a.edges i j = true) : (fillNode n a node).1.fx i j = a.fx i j := by
  rw [fillNode_eq]
  refine List.foldlRecOn (motive := fun acc : FxArr τ => acc.fx i j = a.fx i j) _ _ rfl
    fun acc hacc c hc => ?_
  have h0 := ((mem_combosOf n a node c).1 hc).2.2.2
  rw [← hacc]
  apply writePair_fx
  · rintro ⟨rfl, rfl⟩; rw [h0] at h; cases h
  · rintro ⟨rfl, rfl⟩; rw [hs, h0] at h; cases h

/-- a run of writes keeps `ConsistentR` if each value written is legitimate for its position, given that
the array it is computed from is consistent and still has the pairs populated at the start -/
theorem foldl_write_consistentR {R : Nat → Nat → τ → Prop} (H : FxRel R) {β : Type}
    (pos : β → Nat × Nat) (val : FxArr τ → β → τ) (l : List β) (a : FxArr τ)
    (hc : ConsistentR R a)
    (hv : ∀ b ∈ l, ∀ acc : FxArr τ, ConsistentR R acc →
      (∀ i j, a.edges i j = true → acc.edges i j = true) → R (pos b).1 (pos b).2 (val acc b)) :
    ConsistentR R (l.foldl (fun acc b => writePair acc (pos b).1 (pos b).2 (val acc b)) a) := by
  refine (List.foldlRecOn (motive := fun acc => ConsistentR R acc ∧
    ∀ i j, a.edges i j = true → acc.edges i j = true) l _ ⟨hc, fun _ _ h => h⟩
    fun acc hacc b hb => ?_).1
  exact ⟨writePair_consistentR H acc _ _ _ hacc.1 (hv b hb acc hacc.1 hacc.2),
    fun i j h => (writePair_edges acc _ _ _ i j).2 (Or.inl (hacc.2 i j h))⟩

theorem fillNode_consistentR {R : Nat → Nat → τ → Prop} (H : FxRel R) (n : Nat) (a : FxArr τ)
    (node : Nat) (hc : ConsistentR R a) (hs : SymmEdges a) : ConsistentR R (fillNode n a node).1 := by
  rw [fillNode_eq]
  refine foldl_write_consistentR H id _ _ a hc fun c hcm acc hacc hmono => ?_
  obtain ⟨⟨_, e1, _⟩, ⟨_, e2, _⟩, _⟩ := (mem_combosOf n a node c).1 hcm
  have h1 : acc.edges c.1 node = true := hmono _ _ (hs _ _ ▸ e1)
  have h2 : acc.edges node c.2 = true := hmono _ _ e2
  exact H.mul c.1 node c.2 _ _ (hacc _ _ h1) (hacc _ _ h2)

theorem lastMaxBy_mem (l : List (Nat × Nat)) (x : Nat × Nat) (h : lastMaxBy l = some x) : x ∈ l := by
  refine List.foldlRecOn (motive := fun acc => ∀ x, acc = some x → x ∈ l) l _ (fun _ h => by cases h)
    (fun acc hacc b hb x hx => ?_) x h
  cases acc with
  | none => cases hx; exact hb
  | some m =>
    simp only at hx
    split at hx <;> cases hx
    exacts [hb, hacc _ rfl]

/-- the node the loop picks is a currency not yet exhausted -/
theorem picked (n : Nat) (e : Nat → Nat → Bool) (prev : List Nat) (x : Nat × Nat)
    (h : lastMaxBy (((List.range n).filter (fun i => !prev.contains i)).map
      (fun i => (rowSum n e i, i))) = some x) : x.2 < n ∧ x.2 ∉ prev := by
  obtain ⟨i, hi, rfl⟩ := List.mem_map.1 (lastMaxBy_mem _ x h)
  simpa using hi

/-- what every node pass (at a currency `< n`) preserves holds of the result, which is fully populated -/
theorem fill_inv (n : Nat) (P : FxArr τ → Prop)
    (step : ∀ a node, node < n → P a → P (fillNode n a node).1) :
    ∀ (fuel : Nat) (a a' : FxArr τ) (prev : List Nat), P a → fill n fuel a prev = some a' →
      P a' ∧ edgeCount n a'.edges = n * n := by
  intro fuel a a' prev
  fun_induction fill n fuel a prev with
  | case1 => intro _ h; cases h                                           -- out of fuel
  | case2 fuel a prev hfull => intro hP h; cases h; exact ⟨hP, hfull⟩     -- fully populated: `a` is returned
  | case3 => intro _ h; cases h                                           -- no node left to try
  | case4 fuel a prev _ avail r node hl a1 hfn ih =>
    -- the pass populated nothing: `node` joins the exhausted list
    intro hP h
    exact ih (by have := step a node (picked n _ prev _ hl).1 hP; rwa [hfn] at this) h
  | case5 fuel a prev _ avail r node hl a1 counter hfn _ ih =>
    -- it populated something: the count rises and the exhausted list restarts
    intro hP h
    exact ih (by have := step a node (picked n _ prev _ hl).1 hP; rwa [hfn] at this) h

/-- a populated entry keeps its value through the whole triangulation -/
theorem fill_keeps (n fuel : Nat) (a a' : FxArr τ) (prev : List Nat) (hs : SymmEdges a)
    (h : fill n fuel a prev = some a') (i j : Nat) (hij : a.edges i j = true) :
    a'.fx i j = a.fx i j ∧ a'.edges i j = true := by
  obtain ⟨⟨_, hkeep⟩, _⟩ := fill_inv n (fun b => SymmEdges b ∧
      ∀ p q, a.edges p q = true → b.fx p q = a.fx p q ∧ b.edges p q = true)
    (fun b node _ ⟨hsb, hb⟩ => ⟨fillNode_symm n b node hsb, fun p q hpq => by
      obtain ⟨hfx, he⟩ := hb p q hpq
      exact ⟨(fillNode_keeps n b node hsb p q he).trans hfx, fillNode_mono n b node p q he⟩⟩)
    fuel a a' prev ⟨hs, fun _ _ h => ⟨rfl, h⟩⟩ h
  exact hkeep i j hij

variable {R : Nat → Nat → τ → Prop}

/-- the triangulation preserves every arithmetic-closed relation, and its result is fully populated -/
theorem fill_consistentR (H : FxRel R) (n : Nat) :
    ∀ (fuel : Nat) (a a' : FxArr τ) (prev : List Nat), ConsistentR R a → SymmEdges a →
      fill n fuel a prev = some a' → ConsistentR R a' ∧ edgeCount n a'.edges = n * n := by
  intro fuel a a' prev hc hs h
  obtain ⟨⟨hc', _⟩, hfull⟩ := fill_inv n (fun b => ConsistentR R b ∧ SymmEdges b)
    (fun b node _ hb => ⟨fillNode_consistentR H n b node hb.1 hb.2, fillNode_symm n b node hb.2⟩)
    fuel a a' prev ⟨hc, hs⟩ h
  exact ⟨hc', hfull⟩

theorem fillStep_map (h : τ → σ) (hh : FxHom h) (node : Nat) (acc : FxArr τ) (c : Nat × Nat) :
    (fillStep node acc c).map h = fillStep node (acc.map h) c := by
  simp only [fillStep, writePair_map h hh, hh.mul]; rfl

theorem fillNode_map (h : τ → σ) (hh : FxHom h) (n : Nat) (a : FxArr τ) (node : Nat) :
    fillNode n (a.map h) node = ((fillNode n a node).1.map h, (fillNode n a node).2) := by
  rw [fillNode_eq, fillNode_eq]
  show ((combosOf n a node).foldl (fillStep node) (a.map h), _) = _
  rw [List.foldl_hom (FxArr.map h) fun acc c => (fillStep_map h hh node acc c).symm]
  rfl

/-- the triangulation commutes with every homomorphism of the element arithmetic -/
theorem fill_map (h : τ → σ) (hh : FxHom h) (n : Nat) : ∀ (fuel : Nat) (a : FxArr τ) (prev : List Nat),
    (fill n fuel a prev).map (FxArr.map h) = fill n fuel (a.map h) prev := by
  intro fuel
  induction fuel with
  | zero => intro a prev; rfl
  | succ fuel ih =>
    intro a prev
    unfold fill
    rw [show (a.map h).edges = a.edges from rfl]
    split
    · rfl
    · simp only [fillNode_map h hh]
      split
      · rfl
      · split <;> exact ih _ _

section Field
variable {K : Type} [Field K]

/-- the arithmetic of the f64 code path, over an arbitrary field -/
instance fieldFxOps : FxOps K where
  mul := (· * ·)
  recip := fun x => 1 / x
  one := 1

/-- the relation behind the potential argument: "entry (i, j) is `u i / u j`", for a nowhere-zero `u` -/
theorem ratio_fxRel (u : Nat → K) (hu : ∀ i, u i ≠ 0) : FxRel (fun i j (x : K) => x = u i / u j) := by
  refine ⟨fun i => (div_self (hu i)).symm, fun i j k x y hx hy => ?_, fun i j x hx => ?_⟩
  · show x * y = _
    rw [hx, hy, div_mul_div_cancel₀ (hu j)]
  · show 1 / x = _
    rw [hx, one_div_div]

end Field
end Rateslib
